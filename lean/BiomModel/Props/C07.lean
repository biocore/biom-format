/-
  C07 — property theorems.  Everything is for EVERY heap satisfying the separation invariant
  (in particular every heap reachable from the empty one), EVERY operation with EVERY content
  function / kernel / mask / ID list, and EVERY history — no bound anywhere.
-/
import BiomModel.Lemmas.C07

namespace Biom.C07
set_option linter.unusedSectionVars false
variable {γ : Type} [Inhabited γ]

/-! ### frame at the level of API operations -/

theorem stepOp_objs_length_le (h : Heap γ) (op : Op γ) : h.objs.length ≤ (stepOp h op).objs.length :=
  run_objs_length_le h _

theorem op_micro_target (n : Nat) (op : Op γ) (t : Nat) (hlt : t < n)
    (hne : ∀ r bs, op = .inplace r bs → r ≠ t) : ∀ m ∈ op.micro n, m.target ≠ some t ∨ m.quiet = true := by
  intro m hm
  cases op with
  | extIds l => cases List.mem_singleton.mp hm; exact Or.inl (fun e => by cases e)
  | read pre =>
    simp only [Op.micro, List.mem_map] at hm
    obtain ⟨p, _, rfl⟩ := hm
    right; rfl
  | inplace r bs =>
    left
    rw [bodiesMicro_target r bs m hm]
    intro e; exact hne r bs rfl (Option.some.inj e)
  | new pre srcs F os ss post =>
    simp only [Op.micro, List.mem_append, List.mem_map, List.mem_cons] at hm
    rcases hm with ⟨p, _, rfl⟩ | rfl | hm
    · right; rfl
    · exact Or.inl (fun e => by cases e)
    · left
      rw [bodiesMicro_target n post m hm]
      intro e; have := Option.some.inj e; omega

/-- **frame** for one API call: every live table other than an in-place receiver — in particular
the receiver and every argument of a non-in-place call — is observably unchanged. -/
theorem stepOp_frame {h : Heap γ} (s : Sep h) (op : Op γ) (t : Nat) (hlt : t < h.objs.length)
    (hne : ∀ r bs, op = .inplace r bs → r ≠ t) : (stepOp h op).abs t = h.abs t :=
  run_frame_quiet s _ t hlt (op_micro_target _ op t hlt hne)

/-- "Every operation invoked with inplace=False, and every operation documented to return a new
table, leaves the receiver and all argument tables observably unchanged". -/
theorem noninplace_inputs_unchanged {h : Heap γ} (s : Sep h) (pre srcs F os ss) (post : List (Body γ)) (t : Nat)
    (hlt : t < h.objs.length) : (stepOp h (.new pre srcs F os ss post)).abs t = h.abs t :=
  stepOp_frame s _ t hlt (fun _ _ e => by cases e)

/-- **frame over histories**: a table is unchanged by any sequence of calls none of which is an
in-place call on it ("later in-place changes to the result never show through in the original"). -/
theorem history_frame {h : Heap γ} (s : Sep h) (ops : List (Op γ)) (t : Nat) (hlt : t < h.objs.length)
    (hne : ∀ op ∈ ops, ∀ r bs, op = .inplace r bs → r ≠ t) : (runOps h ops).abs t = h.abs t := by
  induction ops generalizing h with
  | nil => rfl
  | cons op r ih =>
    exact (ih (stepOp_sep s op) (Nat.lt_of_lt_of_le hlt (stepOp_objs_length_le h op))
      (fun op' hm => hne op' (List.mem_cons_of_mem _ hm))).trans
      (stepOp_frame s op t hlt (hne op (List.mem_cons_self ..)))

theorem stepOp_ids (h : Heap γ) (op : Op γ) : Agree [] h.ids (stepOp h op).ids := run_ids h _

theorem runOps_ids (h : Heap γ) (ops : List (Op γ)) : Agree [] h.ids (runOps h ops).ids :=
  foldl_invariant (P := fun h' => Agree [] h.ids h'.ids) (fun h' op a => a.trans (stepOp_ids h' op)) ops .refl

/-- caller-held and shared ID arrays are never modified by any history -/
theorem history_ids_never_written (h : Heap γ) (ops : List (Op γ)) (l : Nat) (hl : l < h.ids.length) :
    (runOps h ops).ids[l]? = h.ids[l]? :=
  (runOps_ids h ops).get hl

/-! ### in-place ≡ non-in-place -/

/-- the in-place variant returns the receiver itself; the other variant returns a new object -/
theorem inplace_returns_receiver (r n : Nat) (bs : List (Body γ)) :
    (Op.inplace r bs).result n = some r ∧ (Op.copyThen r bs).result n = some n := ⟨rfl, rfl⟩

/-- state of the receiver after the in-place variant: the bodies' content function applied to its content -/
theorem inplace_content {h : Heap γ} (s : Sep h) (r : Nat) (bs : List (Body γ)) (o : Obj)
    (ho : h.objs[r]? = some o) :
    (stepOp h (.inplace r bs)).abs r = some (absRun (bodiesMicro r bs) (h.absObj o)) :=
  run_inplace_abs s _ r o (bodiesMicro_target r bs) ho

theorem copyF_single (c : Content γ) : copyF [c] = c := rfl

/-- content of the table the non-in-place variant returns: the same content function applied to
what `copy()` makes of the receiver's content -/
theorem copy_content {h : Heap γ} (s : Sep h) (r : Nat) (bs : List (Body γ)) (o : Obj)
    (ho : h.objs[r]? = some o) :
    (stepOp h (Op.copyThen r bs)).abs h.objs.length =
      some (absRun (bodiesMicro r bs) (h.absObj o).norm) := by
  unfold stepOp Op.copyThen
  simp only [Op.micro, List.map_nil, List.nil_append, run, List.foldl_cons, step]
  have hc := abs_construct h [r] copyF .fresh .fresh
  have hsrc : [r].filterMap h.abs = [h.absObj o] := by
    simp only [List.filterMap_cons, abs_of_objs ho, List.filterMap_nil]
  rw [hsrc, copyF_single] at hc
  obtain ⟨o', ho', e⟩ := abs_some_obj hc
  have := run_inplace_abs (sep_construct s [r] copyF .fresh .fresh) (bodiesMicro h.objs.length bs)
    h.objs.length o' (bodiesMicro_target _ bs) ho'
  simp only [run] at this
  rw [this, e, absRun_target_irrel h.objs.length r]
  rfl

theorem norm_of_mdNormal (c : Content γ) (hn : c.mdNormal = true) : c.norm = c := by
  rw [mdNormal_iff] at hn
  rw [Content.norm, hn.1, hn.2]

/-- the invariant of every reachable heap: separation of the writable locations, and no table
holding a metadata tuple without information (constructor, `_cast_metadata`, `filter` and
`del_metadata` all turn such a tuple into `None`) -/
def Inv (h : Heap γ) : Prop := Sep h ∧ Normal h

theorem inv_empty : Inv (Heap.empty : Heap γ) := ⟨sep_empty, normal_empty⟩

theorem stepOp_inv {h : Heap γ} (i : Inv h) (op : Op γ) : Inv (stepOp h op) :=
  ⟨stepOp_sep i.1 op, run_normal i.1 i.2 _⟩

theorem runOps_inv {h : Heap γ} (i : Inv h) (ops : List (Op γ)) : Inv (runOps h ops) :=
  foldl_invariant (P := Inv) (fun _ op i => stepOp_inv i op) ops i

/-- **in-place ≡ non-in-place**: "the in-place variant leaves the receiver in exactly the state the
non-in-place variant returns" — for every reachable heap (any layout of the receiver, any sharing
of its ID arrays, any history), every body (filter, transform, norm, pa, rankdata, remove_empty,
update_ids, add/del metadata and any sequence of them) and every content function. -/
theorem inplace_equiv {h : Heap γ} (i : Inv h) (r : Nat) (bs : List (Body γ)) (o : Obj)
    (ho : h.objs[r]? = some o) :
    (stepOp h (.inplace r bs)).abs r = (stepOp h (Op.copyThen r bs)).abs h.objs.length := by
  rw [inplace_content i.1 r bs o ho, copy_content i.1 r bs o ho, norm_of_mdNormal _ (i.2 r o ho)]

/-- a 1×2 table whose second sample has an empty metadata entry -/
def wC0 : Content Nat :=
  { obs := ["o"], samp := ["s1", "s2"], mat := 7, omd := none, smd := some [[("a", "1")], []], ttype := none }

/-- build it, then keep only the second sample in place: the kept entry is empty, so the receiver
now has no sample metadata (before the repair of `filter` it kept the tuple `({},)`, and the
in-place and copying variants of every later operation disagreed) -/
def wHeap : Heap Nat :=
  runOps Heap.empty [.new [] [] (fun _ => wC0) .fresh .fresh [], .inplace 0 [.filter .samp id ["s2"] [false, true]]]

theorem inplace_equiv_formerly_failing :
    (wHeap.abs 0).map (·.smd) = some none ∧
    (stepOp wHeap (.inplace 0 [.transform .samp (· * 2)])).abs 0 =
      (stepOp wHeap (Op.copyThen 0 [.transform .samp (· * 2)])).abs wHeap.objs.length := by
  decide +kernel

/-! ### the declarative predicate holds of the model's own observations -/

section holds
variable [DecidableEq γ]
open Codec

theorem snaps_get (h : Heap γ) (i : Nat) : (snaps h)[i]? = h.abs i := List.getElem?_map

theorem snaps_length (h : Heap γ) : (snaps h).length = h.objs.length := List.length_map _

theorem holds_of_inplace (c : CallObs γ) (hi : c.inplace = true)
    (h1 : ((List.range c.before.length).all (fun i => i == c.recv || c.after[i]? == c.before[i]?)
            && c.after.length == c.before.length) = true)
    (h2 : (c.extAfter == c.extBefore) = true)
    (h3 : (c.raised || c.resultIds == [c.recv]) = true)
    (h4 : (c.raised || c.after[c.recv]? == c.results.head?) = true)
    (h5 : (c.raised || (c.reference.isSome && c.results.head? == c.reference)) = true)
    (h6 : ((List.range c.gBefore.length).all (fun i => i == c.recv || c.gAfter[i]? == c.gBefore[i]?)) = true) :
    holds c = true := by
  unfold holds holdsV
  rw [hi, h1, h2, h3, h4, h5, h6]
  rfl

theorem holds_of_new (c : CallObs γ) (hi : c.inplace = false)
    (h1 : (c.after == c.before) = true)
    (h2 : (c.extAfter == c.extBefore) = true)
    (h3 : (c.resultIds.all (fun i => decide (c.before.length ≤ i))) = true)
    (h4 : (c.raised || (c.resultIds.length == c.results.length)) = true)
    (h5 : (c.afterPoke == c.before) = true)
    (h6 : (c.extAfterPoke == c.extBefore) = true)
    (h7 : (c.gAfter == c.gBefore) = true) (h8 : (c.gAfterPoke == c.gBefore) = true) : holds c = true := by
  unfold holds holdsV
  rw [hi, h1, h2, h3, h4, h5, h6, h7, h8]
  rfl

theorem take_snaps_eq {h h' : Heap γ} (hle : h.objs.length ≤ h'.objs.length)
    (hfr : ∀ t, t < h.objs.length → h'.abs t = h.abs t) : (snaps h').take h.objs.length = snaps h := by
  have a : Agree [] (snaps h) (snaps h') :=
    ⟨by rw [snaps_length, snaps_length]; exact hle,
     fun i hi _ => by rw [snaps_get, snaps_get]; exact hfr i (snaps_length h ▸ hi)⟩
  exact snaps_length h ▸ a.take_eq

theorem obs_holds_inplace {h : Heap γ} (i : Inv h) (r : Nat) (bs poke : List (Body γ)) (o : Obj)
    (ho : h.objs[r]? = some o) :
    holds (obsOp h (.inplace r bs) poke).1 = true := by
  have s := i.1
  have hr := getElem?_some_lt ho
  have hle := stepOp_objs_length_le h (.inplace r bs)
  have hc := inplace_content s r bs o ho
  apply holds_of_inplace
  · rfl
  · simp only [obsOp, Bool.and_eq_true, List.all_eq_true, List.mem_range, beq_iff_eq, Bool.or_eq_true,
      snaps_length, List.length_take]
    refine ⟨fun i hi => ?_, by omega⟩
    by_cases e : i = r
    · exact Or.inl e
    · right
      rw [List.getElem?_take, if_pos hi, snaps_get, snaps_get]
      exact stepOp_frame s _ i hi (fun r' bs' e' => by cases e'; exact fun e'' => e e''.symm)
  · exact beq_iff_eq.mpr (stepOp_ids h _).take_eq
  · exact beq_self_eq_true [r]
  · simp only [obsOp, Bool.false_or, beq_iff_eq]
    rw [List.getElem?_take, if_pos hr, snaps_get, hc]; rfl
  · simp only [obsOp, Bool.false_or, Bool.and_eq_true, beq_iff_eq]
    rw [← inplace_equiv i r bs o ho, hc]
    exact ⟨rfl, rfl⟩
  · exact List.all_eq_true.mpr fun _ _ => Bool.or_eq_true_iff.mpr (Or.inr (beq_self_eq_true _))

theorem obs_holds_new {h : Heap γ} (s : Sep h) (op : Op γ) (poke : List (Body γ))
    (hop : ∀ r bs, op ≠ .inplace r bs) : holds (obsOp h op poke).1 = true := by
  have s1 := stepOp_sep s op
  have hle := stepOp_objs_length_le h op
  have hle2 := stepOp_objs_length_le (stepOp h op) (.inplace h.objs.length poke)
  have f1 : ∀ t, t < h.objs.length → (stepOp h op).abs t = h.abs t :=
    fun t ht => stepOp_frame s op t ht (fun r bs e => absurd e (hop r bs))
  have f2 : ∀ t, t < h.objs.length →
      (stepOp (stepOp h op) (.inplace h.objs.length poke)).abs t = h.abs t := by
    intro t ht
    rw [stepOp_frame s1 _ t (by omega) (fun r bs e => by cases e; omega)]
    exact f1 t ht
  have e1 := take_snaps_eq hle f1
  have e2 := take_snaps_eq (Nat.le_trans hle hle2) f2
  have i1 := (stepOp_ids h op).take_eq
  have i2 := ((stepOp_ids h op).trans (stepOp_ids _ (.inplace h.objs.length poke))).take_eq
  -- `hop` selects the second branch of `obsOp`
  simp only [obsOp]
  apply holds_of_new
  · rfl
  · exact beq_iff_eq.mpr e1
  · exact beq_iff_eq.mpr i1
  · simp only [List.all_map, List.all_eq_true, snaps_length, Function.comp, decide_eq_true_eq]
    exact fun j _ => Nat.le_add_left _ _
  · simp only [Bool.false_or, List.length_map, List.length_range, List.length_drop, snaps_length, beq_self_eq_true]
  · exact beq_iff_eq.mpr e2
  · exact beq_iff_eq.mpr i2
  · exact beq_self_eq_true _
  · exact beq_self_eq_true _

theorem obsOp_inv {h : Heap γ} (s : Inv h) (op : Op γ) (poke : List (Body γ)) : Inv (obsOp h op poke).2 := by
  cases op with
  | inplace r bs => exact stepOp_inv s _
  | _ => exact stepOp_inv (stepOp_inv s _) _

/-- **model_holds**: the declarative predicate is true of the model's observation of every call of
every history from every heap satisfying the invariant, whatever the operations, their arguments,
content functions and pokes (`okRun`: every in-place call names a table that is live). -/
theorem model_holds {h : Heap γ} (i : Inv h) (calls : List (Op γ × List (Body γ)))
    (hok : okRun h calls = true) : (runObs h calls).all holds = true := by
  induction calls generalizing h with
  | nil => rfl
  | cons c rest ih =>
    obtain ⟨op, poke⟩ := c
    simp only [okRun, Bool.and_eq_true] at hok
    simp only [runObs, List.all_cons, Bool.and_eq_true]
    refine ⟨?_, ih (obsOp_inv i op poke) hok.2⟩
    cases op with
    | inplace r bs =>
      have hk := hok.1
      simp only [okCall, decide_eq_true_eq] at hk
      exact obs_holds_inplace i r bs poke h.objs[r] (List.getElem?_eq_getElem hk)
    | _ => exact obs_holds_new i.1 _ poke (fun _ _ e => by cases e)

/-- every history that starts from nothing (all prior histories, every layout they lead to) -/
theorem model_holds_from_empty (pre : List (Op γ)) (calls : List (Op γ × List (Body γ)))
    (hok : okRun (runOps Heap.empty pre) calls = true) :
    (runObs (runOps (Heap.empty : Heap γ) pre) calls).all holds = true :=
  model_holds (runOps_inv inv_empty pre) calls hok

end holds

/-! ### non-vacuity: concrete heaps with shared ID arrays, layouts that match / do not match -/

def exA : Content Nat :=
  { obs := ["o1", "o2"], samp := ["s1", "s2"], mat := 1, omd := some [[("g", "a")], [("g", "b")]], smd := none,
    ttype := some "OTU table" }
def exB : Content Nat := { exA with mat := 2, omd := none }
def exT (cs : List (Content Nat)) : Content Nat :=
  match cs with
  | [c] => { obs := c.samp, samp := c.obs, mat := c.mat + 100, omd := c.smd, smd := c.omd, ttype := none }
  | _ => exA

/-- the caller makes one ID array and builds two tables on it; the first is transposed (views of
both of its ID arrays); the second is put into CSC layout by an in-place transform -/
def exHeap : Heap Nat :=
  runOps Heap.empty [.extIds ["s1", "s2"], .new [] [] (fun _ => exA) .fresh (.ofLoc 0) [],
    .new [] [] (fun _ => exB) .fresh (.ofLoc 0) [], Op.transpose 0 exT,
    .inplace 1 [.transform .samp (· + 5)]]

example : Inv exHeap := runOps_inv inv_empty _
/-- tables 0 and 1 share the caller's array; the transposed table 2 uses table 0's arrays, swapped -/
example : exHeap.objs.map (fun o => (o.obsIds, o.sampIds)) = [(1, 0), (2, 0), (0, 1)] := by decide +kernel
example : exHeap.objs.map (·.fmt) = [.csr, .csc, .csr] := by decide +kernel
/-- an in-place transform on table 0 (layout matches: the buffer is written in place) changes table 0
and neither table 1, which shares its sample IDs, nor table 2, which shares both ID arrays -/
example :
    let h' := stepOp exHeap (.inplace 0 [.transform .obs (· + 10), .updateIds .samp ["x", "y"]])
    h'.abs 0 ≠ exHeap.abs 0 ∧ h'.abs 1 = exHeap.abs 1 ∧ h'.abs 2 = exHeap.abs 2 ∧
    (h'.objs.map (·.mat)) = (exHeap.objs.map (·.mat)) := by decide +kernel
/-- the hypothesis of `model_holds` is met by a history with in-place and non-in-place calls,
a layout that matches (table 1, CSC, sample axis) and one that does not, and pokes -/
example : okRun exHeap
    [(.inplace 1 [.filter .samp (· + 1) ["s2"] [false, true]], []),
     (Op.copyThen 0 [.transform .samp (· * 2)], [.transform .obs (· * 3), .addMd .obs [some (fun m => ("k", "v") :: m)],
                                                   .delMd .obs (some (fun m => m.filter (·.1 != "k")))]),
     (Op.partition 0 .samp [(0, .samp)] (fun _ => exB) [], [.updateIds .obs ["p", "q"]]),
     (.inplace 0 [.updateIds .obs ["n1", "n2"]], [])] = true := by decide +kernel
example : (runObs exHeap
    [(.inplace 1 [.filter .samp (· + 1) ["s2"] [false, true]], []),
     (Op.copyThen 0 [.transform .samp (· * 2)], [.transform .obs (· * 3)])]).map (·.results.length) = [1, 1] := by decide +kernel

end Biom.C07
