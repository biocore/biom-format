/-
  C08 — property theorems.  Everything is for EVERY table (any size, any values, any distinct IDs,
  with or without metadata), EVERY well-formed layout of its matrix (any index order inside the
  vectors, stored zeros allowed), EVERY mask / ID collection / user predicate.
-/
import BiomModel.Lemmas.C08

namespace Biom.C08

variable {α : Type}

/-! ## Kernel level -/

/-- On strictly increasing minor indices the scratch-buffer loop rebuilds the TRUE dense vector,
whatever the previous vector left in the buffer. -/
theorem mergeRow_sorted [Zero α] (prev : List α) (ents : List (Nat × α)) (n : Nat) (hn : prev.length = n)
    (h : (ents.map (·.1)).Pairwise (· < ·)) :
    mergeRow prev ents 0 = CS.denseVec n ents :=
  mergeRow_dense prev ents n hn h

/-- …and on unsorted indices it does not: entry `(0, 7)` is lost and the stale buffer would survive in
position 0 were it not overwritten by the `j < c` branch — why `Table.filter` must call `sort_indices()`. -/
theorem mergeRow_unsorted_witness :
    mergeRow [9, 9, 9] [(2, (5 : Int)), (0, 7)] 0 = [0, 0, 5] ∧
    CS.denseVec 3 [(2, (5 : Int)), (0, 7)] = [7, 0, 5] ∧
    mergeRow [9, 9, 9] [(1, (5 : Int)), (0, 7)] 0 = [0, 5, 9] := by decide +kernel

/-- `_remove_rows_csr`, for EVERY well-formed layout (any index order, stored zeros allowed) and every
mask of the right length: it succeeds (no bounds error although it compacts in place), its output is
well-formed and its dense content is the input's content restricted to the masked vectors. -/
theorem removeRows_ok [Zero α] (cs : CS α) (h : cs.WF) (mask : List Bool) (hm : mask.length = cs.nMajor) :
    ∃ cs', removeRows cs mask = .ok cs' ∧ cs'.WF ∧ cs'.toDense = filterMask cs.toDense mask ∧
      cs'.nMinor = cs.nMinor ∧ cs'.nMajor = mask.count true := by
  refine ⟨keptSlices cs mask, removeRows_eq_kept cs h mask hm, keptSlices_wf cs h mask,
    keptSlices_toDense cs mask, rfl, ?_⟩
  show (filterMask (slices cs) mask).length = mask.count true
  exact length_filterMask _ _ (Nat.le_of_eq (hm.trans (slices_length cs).symm))

/-- the in-place loop and its functional twin (append the kept slices, prefix sums as `indptr`) agree -/
theorem removeRows_simulation (cs : CS α) (h : cs.WF) (mask : List Bool) (hm : mask.length = cs.nMajor) :
    removeRows cs mask = .ok (keptSlices cs mask) :=
  removeRows_eq_kept cs h mask hm

/-- scipy's `sort_indices` as modelled: same matrix, well-formed, indices sorted inside every vector -/
theorem sortIndices_contract [Zero α] (cs : CS α) (h : cs.WF) :
    (sortIndices cs).WF ∧ (sortIndices cs).SortedIndices ∧ (sortIndices cs).toDense = cs.toDense ∧
    (sortIndices cs).nMajor = cs.nMajor ∧ (sortIndices cs).nMinor = cs.nMinor :=
  ⟨sortIndices_wf cs h, sortIndices_sorted cs h, sortIndices_toDense cs h, sortIndices_nMajor cs, rfl⟩

/-- the boolean array built from an ID collection: `KeyError` iff some ID is unknown, else position
`i` is kept iff `ids[i]` was named, XOR invert -/
theorem idMask_ok (ids keep : List Id) (invert : Bool) (hn : ids.Nodup) :
    idMask ids keep invert =
      if keep.all (fun k => ids.contains k) then .ok (ids.map (fun id => keep.contains id ^^ invert))
      else .error .key :=
  idMask_spec ids keep invert hn

/-! ## `Table.filter` -/

/-- the verdict a predicate gives on an ID, all three arguments looked up BY ID in the table -/
def predVerdict (t : Table α) (ax : Axis) (p : Pred α) (invert : Bool) (id : Id) : Bool :=
  verdictOf p invert (callById t ax id)

/-- ID-collection path: an unknown ID is a `KeyError` raised before anything is assigned; otherwise
the result is the specification `filterAxis` with the mask "named XOR invert". -/
theorem filter_ids_path [Zero α] (t : Table α) (hwf : t.WF) (ax : Axis) (hn : (t.ids ax).Nodup)
    (layout : CS α) (hl : LayoutOf t ax layout) (l : List Id) (invert : Bool) :
    tableFilter t layout ax (.ids l) invert =
      if l.all (fun k => (t.ids ax).contains k) then
        .ok (filterAxis t ((t.ids ax).map (fun id => l.contains id ^^ invert)) ax, [])
      else .error .key := by
  by_cases hall : l.all (fun k => (t.ids ax).contains k) = true
  · rw [if_pos hall]
    apply tableFilter_of_mask t hwf ax layout hl
    · simp
    · rw [computeMask_ids _ _ _ _ _ hn, if_pos hall]
  · rw [if_neg hall]
    unfold tableFilter filterKernel
    rw [computeMask_ids _ _ _ _ _ hn, if_neg hall]

/-- predicate path: the predicate is called once per ID, in order, with `(dense vector, id, md)`;
the mask is its verdict XOR invert; the result is `filterAxis` with that mask. -/
theorem filter_pred_path [Zero α] (t : Table α) (hwf : t.WF) (ax : Axis) (hn : (t.ids ax).Nodup)
    (layout : CS α) (hl : LayoutOf t ax layout) (p : Pred α) (invert : Bool) :
    tableFilter t layout ax (.pred p) invert =
      .ok (filterAxis t ((t.ids ax).map (predVerdict t ax p invert)) ax, (t.ids ax).map (callById t ax)) := by
  apply tableFilter_of_mask t hwf ax layout hl
  · exact List.length_map _
  · rw [computeMask_pred t hwf ax hn layout hl, List.map_map]; rfl

theorem filter_other_path [Zero α] (t : Table α) (layout : CS α) (ax : Axis) (invert : Bool) :
    tableFilter t layout ax .other invert = .error .type := rfl

/-- what a filtered table must satisfy, in the property's own words -/
structure FilterSpec (t r : Table α) (ax : Axis) (keepId : Id → Bool) : Prop where
  /-- exactly the selected IDs, in their original relative order -/
  ids : r.ids ax = (t.ids ax).filter keepId
  /-- each with its original vector -/
  vec : ∀ id ∈ r.ids ax, r.vec? ax id = t.vec? ax id
  /-- and its original metadata (canonically: metadata whose kept entries are all empty is stored as none) -/
  md : ∀ id ∈ r.ids ax, mdCanon (r.mdOf? ax id) = mdCanon (t.mdOf? ax id)
  /-- the other axis is untouched -/
  otherIds : r.ids ax.other = t.ids ax.other
  otherMd : r.md ax.other = t.md ax.other
  ttype : r.ttype = t.ttype
  wf : r.WF

theorem filterAxis_meets_spec (t : Table α) (hwf : t.WF) (ax : Axis) (hn : (t.ids ax).Nodup) (f : Id → Bool) :
    FilterSpec t (filterAxis t ((t.ids ax).map f) ax) ax f where
  ids := by rw [filterAxis_ids, filterMask_map_self]
  vec := by
    intro id hid
    rw [filterAxis_ids] at hid
    exact filterAxis_vec? t _ ax hn id hid
  md := by
    intro id hid
    rw [filterAxis_ids] at hid
    exact filterAxis_mdOf? t _ ax hn id hid
  otherIds := filterAxis_other_ids t _ ax
  otherMd := filterAxis_other_md t _ ax
  ttype := filterAxis_ttype t _ ax
  wf := filterAxis_wf t hwf _ ax

/-- **filter_spec**, for ALL predicates `p`: the kept IDs are `[id | p(vec id, id, md id) xor invert]` in
original order, vectors and metadata of the kept IDs are unchanged by ID, the other axis is untouched,
and the predicate's call log lists every ID once, in order, with that ID's true vector and metadata. -/
theorem filter_spec [Zero α] (t : Table α) (hwf : t.WF) (ax : Axis) (hn : (t.ids ax).Nodup)
    (layout : CS α) (hl : LayoutOf t ax layout) (p : Pred α) (invert : Bool) :
    ∃ r calls, tableFilter t layout ax (.pred p) invert = .ok (r, calls) ∧
      FilterSpec t r ax (predVerdict t ax p invert) ∧
      calls.map (·.id) = t.ids ax ∧
      (∀ c ∈ calls, t.vec? ax c.id = some c.vec ∧ t.mdOf? ax c.id = c.md) := by
  refine ⟨_, _, filter_pred_path t hwf ax hn layout hl p invert, filterAxis_meets_spec t hwf ax hn _, ?_, ?_⟩
  · simp [List.map_map, Function.comp_def, callById]
  · intro c hc
    obtain ⟨id, hid, rfl⟩ := List.mem_map.mp hc
    exact ⟨vec?_of_mem t hwf ax id hid, rfl⟩

/-- the same for ID collections (list, set, tuple, array — only membership matters) -/
theorem filter_ids_spec [Zero α] (t : Table α) (hwf : t.WF) (ax : Axis) (hn : (t.ids ax).Nodup)
    (layout : CS α) (hl : LayoutOf t ax layout) (l : List Id) (invert : Bool)
    (hall : ∀ id ∈ l, id ∈ t.ids ax) :
    ∃ r, tableFilter t layout ax (.ids l) invert = .ok (r, []) ∧
      FilterSpec t r ax (fun id => l.contains id ^^ invert) := by
  have h : l.all (fun k => (t.ids ax).contains k) = true := by
    simpa [List.all_eq_true] using hall
  refine ⟨_, ?_, filterAxis_meets_spec t hwf ax hn _⟩
  rw [filter_ids_path t hwf ax hn layout hl, if_pos h]

theorem filterCall_ok [Zero α] {t : Table α} {layout : CS α} {ax : Axis} {keep : Keep α} {invert : Bool}
    {r : Table α} {calls : List (Call α)} (h : tableFilter t layout ax keep invert = .ok (r, calls)) (inplace : Bool) :
    filterCall t layout ax keep invert inplace =
      { result := .ok r, after := if inplace then r else t, calls := calls } := by
  simp only [filterCall, h]

theorem filterCall_error [Zero α] {t : Table α} {layout : CS α} {ax : Axis} {keep : Keep α} {invert : Bool}
    {e : Err} (h : tableFilter t layout ax keep invert = .error e) (inplace : Bool) :
    filterCall t layout ax keep invert inplace = { result := .error e, after := t, calls := [] } := by
  simp only [filterCall, h]

/-- an unknown ID is a `KeyError` whatever the table and the layout are: the lookup fails before the matrix is read -/
theorem tableFilter_unknown_id [Zero α] (t : Table α) (layout : CS α) (ax : Axis) (l : List Id) (invert : Bool)
    (bad : Id) (hb : bad ∈ l) (hnot : bad ∉ t.ids ax) : tableFilter t layout ax (.ids l) invert = .error .key := by
  have h : ¬ (l.all (fun k => (t.ids ax).contains k) = true) := fun hall =>
    hnot (List.contains_iff_mem.mp (List.all_eq_true.mp hall bad hb))
  simp only [tableFilter, filterKernel, computeMask, idMask, lookupAll_spec, if_neg h]

/-- **unknown_id_unchanged**: naming an ID that is not on the axis is an error, nothing is returned and
the receiver is what it was — in place or not. -/
theorem unknown_id_unchanged [Zero α] (t : Table α) (hwf : t.WF) (ax : Axis) (hn : (t.ids ax).Nodup)
    (layout : CS α) (hl : LayoutOf t ax layout) (l : List Id) (invert inplace : Bool)
    (bad : Id) (hb : bad ∈ l) (hnot : bad ∉ t.ids ax) :
    (filterCall t layout ax (.ids l) invert inplace).result = .error .key ∧
    (filterCall t layout ax (.ids l) invert inplace).after = t := by
  rw [filterCall_error (tableFilter_unknown_id t layout ax l invert bad hb hnot)]
  exact ⟨rfl, rfl⟩

/-- naming the IDs that a verdict `f` accepts is filtering by `f`: only membership in the collection matters -/
theorem filter_ids_of_filter [Zero α] (t : Table α) (hwf : t.WF) (ax : Axis) (hn : (t.ids ax).Nodup)
    (layout : CS α) (hl : LayoutOf t ax layout) (f : Id → Bool) (invert : Bool) :
    tableFilter t layout ax (.ids ((t.ids ax).filter f)) invert =
      .ok (filterAxis t ((t.ids ax).map (fun id => f id ^^ invert)) ax, []) := by
  have hall : ((t.ids ax).filter f).all (fun k => (t.ids ax).contains k) = true :=
    List.all_eq_true.mpr fun id hid => List.contains_iff_mem.mpr (List.mem_filter.mp hid).1
  rw [filter_ids_path t hwf ax hn layout hl, if_pos hall]
  congr 3
  apply List.map_congr_left
  intro id hid
  congr 1
  rw [Bool.eq_iff_iff, List.contains_iff_mem, List.mem_filter]
  exact and_iff_right hid

/-- the IDs a predicate accepts, as `holds`/the harness compute them -/
theorem acceptedIds_eq [Zero α] (t : Table α) (hwf : t.WF) (ax : Axis) (p : Pred α) :
    acceptedIds t ax p = (t.ids ax).filter (predVerdict t ax p false) := by
  unfold acceptedIds
  apply List.filter_congr
  intro id hid
  rw [vec?_of_mem t hwf ax id hid]
  simp only [predVerdict, verdictOf, callById, Bool.xor_false]

/-- **pred_eq_idlist**: filtering by a predicate and filtering by the list of IDs that predicate accepts
give equal tables (whatever layouts scipy holds for the two calls). -/
theorem pred_eq_idlist [Zero α] (t : Table α) (hwf : t.WF) (ax : Axis) (hn : (t.ids ax).Nodup)
    (layout layout' : CS α) (hl : LayoutOf t ax layout) (hl' : LayoutOf t ax layout') (p : Pred α) (invert : Bool) :
    (tableFilter t layout ax (.pred p) invert).map (·.1) =
    (tableFilter t layout' ax (.ids (acceptedIds t ax p)) invert).map (·.1) := by
  rw [filter_pred_path t hwf ax hn layout hl, acceptedIds_eq t hwf ax,
    filter_ids_of_filter t hwf ax hn layout' hl']
  simp only [Except.map]
  congr 3
  funext id
  simp only [predVerdict, verdictOf, Bool.xor_false]

/-! ## `holds` is true of the model's observation -/

open Codec in
theorem chk_true (c : String) : chk c true = none := rfl

theorem eqb_iff {β : Type} [DecidableEq β] (a b : β) : eqb a b = true ↔ a = b := by simp [eqb]

theorem eqb_self {β : Type} [DecidableEq β] (a : β) : eqb a a = true := (eqb_iff a a).mpr rfl

theorem resultClauses_of_spec [DecidableEq α] (t r : Table α) (ax : Axis) (f : Id → Bool)
    (h : FilterSpec t r ax f) : resultClauses t r ax ((t.ids ax).filter f) = none := by
  simp only [resultClauses, allV_cons_eq_none, allV_nil, chk_eq_none_iff, eqb_iff, List.all_eq_true, and_true]
  exact ⟨(Layer.table_wfb_iff r).mpr h.wf, h.ids, h.otherIds, fun id hid => h.vec id (h.ids ▸ hid),
    fun id hid => h.md id (h.ids ▸ hid), h.otherMd, h.ttype⟩

theorem keptIds_pred [DecidableEq α] (t : Table α) (hwf : t.WF) (ax : Axis) (p : Pred α) (invert : Bool) :
    keptIds t ax (.pred p) invert = (t.ids ax).filter (predVerdict t ax p invert) := by
  unfold keptIds
  apply List.filter_congr
  intro id hid
  rw [vec?_of_mem t hwf ax id hid]
  simp only [predVerdict, verdictOf, callById]

/-- **model_holds** (filter): for every table of the C01 domain, every layout scipy may hold for it,
every ID collection, every predicate, invert and inplace, the declarative predicate `holdsFilter`
is true of what the model of `Table.filter` produces. -/
theorem model_holds [Zero α] [DecidableEq α] (t : Table α) (hwf : t.WF) (ax : Axis) (hn : (t.ids ax).Nodup)
    (layout : CS α) (hl : LayoutOf t ax layout) (keep : Keep α) (invert inplace : Bool) :
    holdsFilter t ax keep invert inplace (modelFilterObs t layout ax keep invert inplace) = true := by
  unfold holdsFilter
  rw [Option.isNone_iff_eq_none]
  cases keep with
  | other =>
    simp only [verdictFilter, modelFilterObs, filterCall_error (filter_other_path t layout ax invert), errOf,
      Option.isSome_some, eqb_self, Bool.and_self]
    rfl
  | ids l =>
    have hr := filter_ids_path t hwf ax hn layout hl l invert
    by_cases hall : l.all (fun k => (t.ids ax).contains k) = true
    · rw [if_pos hall] at hr
      simp only [verdictFilter, modelFilterObs, filterCall_ok hr, hall, if_true, allV_cons_eq_none, allV_nil, chk_eq_none_iff,
        eqb_iff, and_true]
      exact resultClauses_of_spec t _ ax _ (filterAxis_meets_spec t hwf ax hn _)
    · rw [if_neg hall] at hr
      simp only [verdictFilter, modelFilterObs, filterCall_error hr, hall, Bool.false_eq_true, if_false, allV_cons_eq_none,
        allV_nil, chk_eq_none_iff, eqb_iff, and_true]
      rfl
  | pred p =>
    obtain ⟨r, calls, hr, hspec, hids, hcalls⟩ := filter_spec t hwf ax hn layout hl p invert
    -- filtering by the accepted IDs returns the same table
    have hr2 := filter_ids_of_filter t hwf ax hn layout hl (predVerdict t ax p false) invert
    rw [← acceptedIds_eq t hwf ax] at hr2
    have hvia := pred_eq_idlist t hwf ax hn layout layout hl hl p invert
    rw [hr, hr2] at hvia
    simp only [verdictFilter, modelFilterObs, filterCall_ok hr, filterCall_ok hr2, allV_cons_eq_none, allV_nil, chk_eq_none_iff,
      eqb_iff, List.all_eq_true, keptIds_pred t hwf ax, and_true, true_and]
    exact ⟨hids, fun c hc => (hcalls c hc).1, fun c hc => (hcalls c hc).2,
      resultClauses_of_spec t r ax _ hspec, (Except.ok.inj hvia).symm⟩

/-! ## `remove_empty` and `head` -/

theorem filterAxis_cell? (t : Table α) (mask : List Bool) (ax : Axis) (hn : (t.ids ax).Nodup) (o s : Id)
    (hk : (match ax with | .obs => o | .samp => s) ∈ filterMask (t.ids ax) mask) :
    (filterAxis t mask ax).cell? o s = t.cell? o s := by
  cases ax with
  | obs =>
    have := filterAxis_vec? t mask .obs hn o hk
    simp only [Table.vec?] at this
    simp only [Table.cell?, this]
    rfl
  | samp =>
    simp only [Table.cell?, Table.row?, filterAxis, lookupBy_map]
    cases lookupBy t.obs t.rows o with
    | none => rfl
    | some r => exact lookupBy_filterMask t.samp r mask s hn hk

theorem filterAxis_mdOf?_other (t : Table α) (mask : List Bool) (ax : Axis) (id : Id) :
    (filterAxis t mask ax).mdOf? ax.other id = t.mdOf? ax.other id := by cases ax <;> rfl

/-- `r` is `t` restricted to the observations `eo` and the samples `es` (cells and metadata by ID) -/
structure BlockSpec (t r : Table α) (eo es : List Id) : Prop where
  wf : r.WF
  obs : r.obs = eo
  samp : r.samp = es
  cells : ∀ o ∈ eo, ∀ s ∈ es, r.cell? o s = t.cell? o s
  omd : ∀ o ∈ eo, mdCanon (r.mdOf? .obs o) = mdCanon (t.mdOf? .obs o)
  smd : ∀ s ∈ es, mdCanon (r.mdOf? .samp s) = mdCanon (t.mdOf? .samp s)
  ttype : r.ttype = t.ttype

theorem blockSpec_filterAxis (t : Table α) (hwf : t.WF) (ax : Axis) (hn : (t.ids ax).Nodup) (f : Id → Bool) :
    BlockSpec t (filterAxis t ((t.ids ax).map f) ax)
      (match ax with | .obs => t.obs.filter f | .samp => t.obs)
      (match ax with | .obs => t.samp | .samp => t.samp.filter f) := by
  have hs := filterAxis_meets_spec t hwf ax hn f
  cases ax with
  | obs =>
    exact {
      wf := hs.wf, obs := hs.ids, samp := rfl
      cells := fun o ho s _ => filterAxis_cell? t _ .obs hn o s (by
        show o ∈ filterMask t.obs (t.obs.map f); rw [filterMask_map_self]; exact ho)
      omd := fun o ho => hs.md o (by rw [hs.ids]; exact ho)
      smd := fun _ _ => rfl
      ttype := hs.ttype }
  | samp =>
    exact {
      wf := hs.wf, obs := rfl, samp := hs.ids
      cells := fun o _ s hs' => filterAxis_cell? t _ .samp hn o s (by
        show s ∈ filterMask t.samp (t.samp.map f); rw [filterMask_map_self]; exact hs')
      omd := fun _ _ => rfl
      smd := fun s hs' => hs.md s (by rw [hs.ids]; exact hs')
      ttype := hs.ttype }

theorem vecs_map_byId [Zero α] {γ : Type} (t : Table α) (ax : Axis) (hn : (t.ids ax).Nodup)
    (layout : CS α) (hl : LayoutOf t ax layout) (g : List α → γ) :
    (vecs t ax).map g = (t.ids ax).map (fun id => g ((t.vec? ax id).getD [])) := by
  rw [vecs_byId t ax hn (vecs_length t ax layout hl), List.map_map]
  rfl

/-- does the vector of this ID hold a non-zero cell? (by-ID) -/
def nonEmptyId [Zero α] [DecidableEq α] (t : Table α) (ax : Axis) (id : Id) : Bool :=
  nonEmptyVec ((t.vec? ax id).getD [])

/-- **removeEmpty_exact**: along one axis `remove_empty` is the specification `filterAxis` with the mask
"this vector holds a non-zero value" — negative values and zero-sum vectors included. -/
theorem removeEmpty_exact [Zero α] [DecidableEq α] (t : Table α) (hwf : t.WF) (ax : Axis)
    (hn : (t.ids ax).Nodup) (layout : CS α) (hl : LayoutOf t ax layout) :
    removeEmptyAxis t layout ax = .ok (filterAxis t ((t.ids ax).map (nonEmptyId t ax)) ax) := by
  have hmask : (vecs t ax).map nonEmptyVec = (t.ids ax).map (nonEmptyId t ax) :=
    vecs_map_byId t ax hn layout hl nonEmptyVec
  simp only [removeEmptyAxis, hmask, filterMask_map_self, filter_ids_of_filter t hwf ax hn layout hl, Bool.xor_false]

/-- …so exactly the all-zero vectors are removed, everything else is intact -/
theorem removeEmpty_removes_exactly_the_zero_vectors [Zero α] [DecidableEq α] (t : Table α) (hwf : t.WF)
    (ax : Axis) (hn : (t.ids ax).Nodup) (layout : CS α) (hl : LayoutOf t ax layout) :
    ∃ r, removeEmptyAxis t layout ax = .ok r ∧ FilterSpec t r ax (nonEmptyId t ax) ∧
      ∀ id ∈ t.ids ax, (id ∈ r.ids ax ↔ ∃ v, t.vec? ax id = some v ∧ ∃ x ∈ v, x ≠ 0) := by
  refine ⟨_, removeEmpty_exact t hwf ax hn layout hl, filterAxis_meets_spec t hwf ax hn _, ?_⟩
  intro id hid
  rw [(filterAxis_meets_spec t hwf ax hn (nonEmptyId t ax)).ids, List.mem_filter]
  rw [vec?_of_mem t hwf ax id hid]
  simp [nonEmptyId, nonEmptyVec, hid]

theorem nonEmptyIds_eq [Zero α] [DecidableEq α] (t : Table α) (hwf : t.WF) (ax : Axis) :
    nonEmptyIds t ax = (t.ids ax).filter (nonEmptyId t ax) := by
  unfold nonEmptyIds
  apply List.filter_congr
  intro id hid
  rw [vec?_of_mem t hwf ax id hid]
  simp only [nonEmptyId]

open Codec in
theorem blockVerdict_none [DecidableEq α] (t r : Table α) (eo es : List Id) (h : BlockSpec t r eo es)
    (c1 c2 c3 c4 c5 c6 c7 : String) (b7 : Bool) (h7 : b7 = true) :
    allV [
      chk c1 r.wfb,
      chk c2 (eqb r.obs eo),
      chk c3 (eqb r.samp es),
      chk c4 (eo.all (fun o => es.all (fun s => eqb (r.cell? o s) (t.cell? o s)))),
      chk c5 (eo.all (fun o => eqb (mdCanon (r.mdOf? .obs o)) (mdCanon (t.mdOf? .obs o))) &&
              es.all (fun s => eqb (mdCanon (r.mdOf? .samp s)) (mdCanon (t.mdOf? .samp s)))),
      chk c6 (eqb r.ttype t.ttype),
      chk c7 b7] = none := by
  simp only [allV_cons_eq_none, allV_nil, chk_eq_none_iff, eqb_iff, List.all_eq_true, Bool.and_eq_true, and_true]
  exact ⟨(Layer.table_wfb_iff r).mpr h.wf, h.obs, h.samp, h.cells, ⟨h.omd, h.smd⟩, h.ttype, h7⟩

/-- **model_holds** (`remove_empty` along one axis) -/
theorem model_holds_removeEmpty [Zero α] [DecidableEq α] (t : Table α) (hwf : t.WF) (ax : Axis)
    (hn : (t.ids ax).Nodup) (layoutOf : Table α → Axis → CS α) (hl : LayoutOf t ax (layoutOf t ax))
    (inplace : Bool) :
    holdsRemoveEmpty t (.one ax) inplace (modelCallObs t (removeEmpty t layoutOf (.one ax)) inplace) = true := by
  unfold holdsRemoveEmpty
  rw [Option.isNone_iff_eq_none]
  simp only [removeEmpty, removeEmpty_exact t hwf ax hn (layoutOf t ax) hl, modelCallObs, verdictRemoveEmpty]
  have hb := blockSpec_filterAxis t hwf ax hn (nonEmptyId t ax)
  cases ax with
  | obs =>
    simp only [REAxis.touches, if_true, Bool.false_eq_true, if_false, nonEmptyIds_eq t hwf .obs]
    exact blockVerdict_none t _ _ _ hb _ _ _ _ _ _ _ _ (eqb_self _)
  | samp =>
    simp only [REAxis.touches, if_true, Bool.false_eq_true, if_false, nonEmptyIds_eq t hwf .samp]
    exact blockVerdict_none t _ _ _ hb _ _ _ _ _ _ _ _ (eqb_self _)

/-! ### `remove_empty(axis='whole')`: samples first, then observations of the intermediate table -/

theorem blockSpec_trans (t t1 r : Table α) (eo es eo' es' : List Id) (h1 : BlockSpec t t1 eo es)
    (h2 : BlockSpec t1 r eo' es') (hso : ∀ o ∈ eo', o ∈ eo) (hss : ∀ s ∈ es', s ∈ es) : BlockSpec t r eo' es' where
  wf := h2.wf
  obs := h2.obs
  samp := h2.samp
  cells := fun o ho s hs => (h2.cells o ho s hs).trans (h1.cells o (hso o ho) s (hss s hs))
  omd := fun o ho => (h2.omd o ho).trans (h1.omd o (hso o ho))
  smd := fun s hs => (h2.smd s hs).trans (h1.smd s (hss s hs))
  ttype := h2.ttype.trans h1.ttype

theorem getElem_mem_filterMask {β : Type} (xs : List β) (mask : List Bool) (j : Nat) (hj : j < xs.length)
    (h : mask[j]? = some true) : xs[j] ∈ filterMask xs mask := by
  induction xs generalizing mask j with
  | nil => cases hj
  | cons x xs ih =>
    cases mask with
    | nil => cases h
    | cons b bs =>
      cases j with
      | zero => cases h; exact List.mem_cons_self
      | succ j =>
        have := ih bs j (Nat.lt_of_succ_lt_succ hj) h
        cases b
        · exact this
        · exact List.mem_cons_of_mem _ this

theorem any_filterMask {β : Type} (p : β → Bool) (xs : List β) (mask : List Bool)
    (h : ∀ j (hj : j < xs.length), p xs[j] = true → mask[j]? = some true) :
    (filterMask xs mask).any p = xs.any p := by
  rw [Bool.eq_iff_iff, List.any_eq_true, List.any_eq_true]
  constructor
  · rintro ⟨x, hx, hp⟩
    exact ⟨x, mem_filterMask _ _ _ hx, hp⟩
  · rintro ⟨x, hx, hp⟩
    obtain ⟨j, hj, rfl⟩ := List.getElem_of_mem hx
    exact ⟨_, getElem_mem_filterMask xs mask j hj (h j hj hp), hp⟩

/-- a row keeps its "holds a non-zero value" verdict when the all-zero columns are removed -/
theorem nonEmptyVec_filter_cols [Zero α] [DecidableEq α] (rows : List (List α)) (m : Nat)
    (hrect : ∀ r ∈ rows, r.length = m) (row : List α) (hrow : row ∈ rows) :
    nonEmptyVec (filterMask row ((transposeGrid m rows).map nonEmptyVec)) = nonEmptyVec row := by
  unfold nonEmptyVec
  apply any_filterMask
  intro j hj hp
  have hjm : j < m := by rw [← hrect row hrow]; exact hj
  simp only [transposeGrid, List.map_map, List.getElem?_map, List.getElem?_range hjm, Option.map_some,
    Function.comp, Option.some.injEq]
  rw [colAt_eq_map rows j (fun r hr => by rw [hrect r hr]; exact hjm)]
  simp only [List.any_map, List.any_eq_true]
  refine ⟨row, hrow, ?_⟩
  simpa [List.getD, List.getElem?_eq_getElem hj] using hp

/-- **removeEmpty_whole**: `remove_empty()` on both axes leaves exactly the observations and the samples
that hold a non-zero value in the ORIGINAL table, cells and metadata by ID unchanged -/
theorem removeEmpty_whole [Zero α] [DecidableEq α] (t : Table α) (hwf : t.WF) (hno : t.obs.Nodup)
    (hns : t.samp.Nodup) (layoutOf : Table α → Axis → CS α)
    (hls : LayoutOf t .samp (layoutOf t .samp))
    (hlo : ∀ t1 : Table α, t1 = filterAxis t (t.samp.map (nonEmptyId t .samp)) .samp →
      LayoutOf t1 .obs (layoutOf t1 .obs)) :
    ∃ r, removeEmpty t layoutOf .whole = .ok r ∧
      BlockSpec t r (t.obs.filter (nonEmptyId t .obs)) (t.samp.filter (nonEmptyId t .samp)) := by
  have hmaskS : (vecs t .samp).map nonEmptyVec = t.samp.map (nonEmptyId t .samp) :=
    vecs_map_byId t .samp hns _ hls nonEmptyVec
  let t1 := filterAxis t (t.samp.map (nonEmptyId t .samp)) .samp
  have hwf1 : t1.WF := filterAxis_wf t hwf _ .samp
  have hl1 := hlo t1 rfl
  have b1 := blockSpec_filterAxis t hwf .samp hns (nonEmptyId t .samp)
  have b2 : BlockSpec t1 (filterAxis t1 (t1.obs.map (nonEmptyId t1 .obs)) .obs)
      (t.obs.filter (nonEmptyId t1 .obs)) t1.samp := blockSpec_filterAxis t1 hwf1 .obs hno (nonEmptyId t1 .obs)
  -- emptiness of an observation is the same in the intermediate table
  have hsame : ∀ o ∈ t.obs, nonEmptyId t1 .obs o = nonEmptyId t .obs o := by
    intro o _
    simp only [nonEmptyId, Table.vec?, Table.row?]
    show nonEmptyVec ((lookupBy t.obs (t.rows.map (filterMask · (t.samp.map (nonEmptyId t .samp)))) o).getD []) = _
    rw [lookupBy_map]
    cases hlk : lookupBy t.obs t.rows o with
    | none => rfl
    | some row =>
      simp only [Option.map_some, Option.getD_some]
      rw [← hmaskS]
      exact nonEmptyVec_filter_cols t.rows t.samp.length hwf.2.1 row (lookupBy_mem _ _ _ _ hlk)
  have hfilter : t.obs.filter (nonEmptyId t1 .obs) = t.obs.filter (nonEmptyId t .obs) :=
    List.filter_congr (fun o ho => hsame o ho)
  refine ⟨filterAxis t1 (t1.obs.map (nonEmptyId t1 .obs)) .obs, ?_, ?_⟩
  · simp only [removeEmpty, removeEmpty_exact t hwf .samp hns _ hls]
    exact removeEmpty_exact t1 hwf1 .obs hno _ hl1
  · rw [hfilter, show t1.samp = t.samp.filter (nonEmptyId t .samp) from b1.samp] at b2
    exact blockSpec_trans t t1 _ _ _ _ _ b1 b2 (fun o ho => (List.mem_filter.mp ho).1) (fun s hs => hs)

/-- **model_holds** (`remove_empty(axis='whole')`) -/
theorem model_holds_removeEmpty_whole [Zero α] [DecidableEq α] (t : Table α) (hwf : t.WF) (hno : t.obs.Nodup)
    (hns : t.samp.Nodup) (layoutOf : Table α → Axis → CS α)
    (hls : LayoutOf t .samp (layoutOf t .samp))
    (hlo : ∀ t1 : Table α, t1 = filterAxis t (t.samp.map (nonEmptyId t .samp)) .samp →
      LayoutOf t1 .obs (layoutOf t1 .obs))
    (hlo0 : LayoutOf t .obs (layoutOf t .obs)) (inplace : Bool) :
    holdsRemoveEmpty t .whole inplace (modelCallObs t (removeEmpty t layoutOf .whole) inplace) = true := by
  obtain ⟨r, hr, hb⟩ := removeEmpty_whole t hwf hno hns layoutOf hls hlo
  unfold holdsRemoveEmpty
  rw [Option.isNone_iff_eq_none]
  simp only [hr, modelCallObs, verdictRemoveEmpty, REAxis.touches, if_true,
    nonEmptyIds_eq t hwf .obs, nonEmptyIds_eq t hwf .samp]
  exact blockVerdict_none t _ _ _ hb _ _ _ _ _ _ _ _ (eqb_self _)

/-! ### `head`: the leading observations, then the leading samples of that block -/

/-- `t` restricted to its leading `k` observations -/
def obsBlock (t : Table α) (k : Nat) : Table α :=
  { t with obs := t.obs.take k, rows := t.rows.take k, omd := normMd (t.omd.map (·.take k)) }

theorem filterAxis_takeMask_obs (t : Table α) (hwf : t.WF) (k : Nat) :
    filterAxis t (takeMask k t.obs.length) .obs = obsBlock t k := by
  obtain ⟨h1, _, h3, _⟩ := hwf
  simp only [filterAxis, obsBlock, filterMask_takeMask]
  congr 1
  · rw [← h1, filterMask_takeMask]
  · cases hm : t.omd with
    | none => rfl
    | some m => simp only [Option.map_some]; rw [← h3 m hm, filterMask_takeMask]

theorem filterAxis_takeMask_samp (t : Table α) (hwf : t.WF) (k : Nat) :
    filterAxis t (takeMask k t.samp.length) .samp =
      { t with samp := t.samp.take k, rows := t.rows.map (·.take k), smd := normMd (t.smd.map (·.take k)) } := by
  obtain ⟨_, h2, _, h4⟩ := hwf
  simp only [filterAxis, filterMask_takeMask]
  congr 1
  · apply List.map_congr_left
    intro r hr
    rw [← h2 r hr, filterMask_takeMask]
  · cases hm : t.smd with
    | none => rfl
    | some m => simp only [Option.map_some]; rw [← h4 m hm, filterMask_takeMask]

theorem obsBlock_wf (t : Table α) (hwf : t.WF) (k : Nat) : (obsBlock t k).WF := by
  rw [← filterAxis_takeMask_obs t hwf k]
  exact filterAxis_wf t hwf _ .obs

theorem filter_ids_take [Zero α] (t : Table α) (hwf : t.WF) (ax : Axis) (hn : (t.ids ax).Nodup)
    (layout : CS α) (hl : LayoutOf t ax layout) (k : Nat) :
    tableFilter t layout ax (.ids ((t.ids ax).take k)) false =
      .ok (filterAxis t (takeMask k (t.ids ax).length) ax, []) := by
  have hall : ((t.ids ax).take k).all (fun id => (t.ids ax).contains id) = true :=
    List.all_eq_true.mpr fun id hid => List.contains_iff_mem.mpr (List.mem_of_mem_take hid)
  rw [filter_ids_path t hwf ax hn layout hl, if_pos hall, takeMask_of_ids (t.ids ax) hn]

theorem blockSpec_takeMask (t : Table α) (hwf : t.WF) (ax : Axis) (hn : (t.ids ax).Nodup) (k : Nat) :
    BlockSpec t (filterAxis t (takeMask k (t.ids ax).length) ax)
      (match ax with | .obs => t.obs.take k | .samp => t.obs)
      (match ax with | .obs => t.samp | .samp => t.samp.take k) := by
  have e : (t.ids ax).filter (fun id => ((t.ids ax).take k).contains id ^^ false) = (t.ids ax).take k := by
    rw [← filterMask_map_self, takeMask_of_ids _ hn, filterMask_takeMask]
  have b := blockSpec_filterAxis t hwf ax hn (fun id => ((t.ids ax).take k).contains id ^^ false)
  rw [takeMask_of_ids _ hn] at b
  cases ax with
  | obs => exact e ▸ b
  | samp => exact e ▸ b

/-- the two filter calls of `head`, for positive sizes -/
theorem head_eq [Zero α] (t : Table α) (hwf : t.WF) (hno : t.obs.Nodup) (hns : t.samp.Nodup)
    (lo : CS α) (ls : Table α → CS α) (n m : Int) (hn : 0 < n) (hm : 0 < m)
    (hlo : LayoutOf t .obs lo) (hls : LayoutOf (obsBlock t n.toNat) .samp (ls (obsBlock t n.toNat))) :
    head t lo ls n m = .ok (filterAxis (obsBlock t n.toNat) (takeMask m.toNat t.samp.length) .samp) := by
  have h1 := filter_ids_take t hwf .obs hno lo hlo n.toNat
  have h2 : tableFilter (obsBlock t n.toNat) (ls (obsBlock t n.toNat)) .samp (.ids (t.samp.take m.toNat)) false = _ :=
    filter_ids_take (obsBlock t n.toNat) (obsBlock_wf t hwf n.toNat) .samp hns _ hls m.toNat
  simp only [Table.ids] at h1
  rw [filterAxis_takeMask_obs t hwf] at h1
  unfold head
  rw [if_neg (by omega)]
  simp only [h1, h2]
  rfl

/-- **head_block**: `head(n, m)` returns exactly the leading `n × m` block — IDs, cells, metadata, type -/
theorem head_block [Zero α] (t : Table α) (hwf : t.WF) (hno : t.obs.Nodup) (hns : t.samp.Nodup)
    (lo : CS α) (ls : Table α → CS α) (n m : Int) (hn : 0 < n) (hm : 0 < m)
    (hlo : LayoutOf t .obs lo) (hls : LayoutOf (obsBlock t n.toNat) .samp (ls (obsBlock t n.toNat))) :
    head t lo ls n m = .ok
      { obs := t.obs.take n.toNat, samp := t.samp.take m.toNat,
        rows := (t.rows.take n.toNat).map (·.take m.toNat),
        omd := normMd (t.omd.map (·.take n.toNat)), smd := normMd (t.smd.map (·.take m.toNat)),
        ttype := t.ttype } := by
  rw [head_eq t hwf hno hns lo ls n m hn hm hlo hls]
  have := filterAxis_takeMask_samp (obsBlock t n.toNat) (obsBlock_wf t hwf n.toNat) m.toNat
  rw [show (obsBlock t n.toNat).samp = t.samp from rfl] at this
  rw [this]
  rfl

/-- non-positive sizes are refused before anything is looked at -/
theorem head_refuses [Zero α] (t : Table α) (lo : CS α) (ls : Table α → CS α) (n m : Int) (h : n ≤ 0 ∨ m ≤ 0) :
    head t lo ls n m = .error .index := by
  unfold head; rw [if_pos h]

/-- **model_holds** (`head`) -/
theorem model_holds_head [Zero α] [DecidableEq α] (t : Table α) (hwf : t.WF) (hno : t.obs.Nodup)
    (hns : t.samp.Nodup) (lo : CS α) (ls : Table α → CS α) (n m : Int)
    (hlo : LayoutOf t .obs lo) (hls : LayoutOf (obsBlock t n.toNat) .samp (ls (obsBlock t n.toNat))) :
    holdsHead t n m (modelCallObs t (head t lo ls n m) false) = true := by
  unfold holdsHead
  rw [Option.isNone_iff_eq_none]
  by_cases h : n ≤ 0 ∨ m ≤ 0
  · simp only [verdictHead, h, if_true, head_refuses t lo ls n m h, modelCallObs, errOf, Option.isSome_some,
      eqb_self]
    rfl
  · have hn : 0 < n := by omega
    have hm : 0 < m := by omega
    simp only [verdictHead, h, if_false, head_eq t hwf hno hns lo ls n m hn hm hlo hls, modelCallObs]
    have b1 := blockSpec_takeMask t hwf .obs hno n.toNat
    simp only [Table.ids] at b1
    rw [filterAxis_takeMask_obs t hwf] at b1
    have b2 := blockSpec_takeMask (obsBlock t n.toNat) (obsBlock_wf t hwf n.toNat) .samp hns m.toNat
    have b := blockSpec_trans t _ _ _ _ _ _ b1 b2 (fun _ h => h) (fun s hs => List.mem_of_mem_take hs)
    exact blockVerdict_none t _ _ _ b _ _ _ _ _ _ _ _ (eqb_self _)

/-! ## Error profile `empty='raise'` -/

theorem tableFilter_valid [Zero α] [DecidableEq α] (t : Table α) (hwf : t.WF) (ax : Axis) (hn : (t.ids ax).Nodup)
    (layout : CS α) (hl : LayoutOf t ax layout) (keep : Keep α) (invert : Bool) (hv : validKeep t ax keep = true) :
    ∃ r calls, tableFilter t layout ax keep invert = .ok (r, calls) ∧
      r.ids ax = keptIds t ax keep invert ∧ r.ids ax.other = t.ids ax.other := by
  cases keep with
  | ids l =>
    simp only [validKeep] at hv
    refine ⟨_, _, by rw [filter_ids_path t hwf ax hn layout hl, if_pos hv], ?_, filterAxis_other_ids t _ ax⟩
    rw [filterAxis_ids, filterMask_map_self]; rfl
  | pred p =>
    refine ⟨_, _, filter_pred_path t hwf ax hn layout hl p invert, ?_, filterAxis_other_ids t _ ax⟩
    rw [filterAxis_ids, filterMask_map_self, keptIds_pred t hwf ax]
  | other => simp [validKeep] at hv

theorem tableFilter_invalid [Zero α] (t : Table α) (hwf : t.WF) (ax : Axis) (hn : (t.ids ax).Nodup)
    (layout : CS α) (hl : LayoutOf t ax layout) (keep : Keep α) (invert : Bool) (hv : validKeep t ax keep = false) :
    ∃ e, tableFilter t layout ax keep invert = .error e := by
  cases keep with
  | ids l =>
    simp only [validKeep] at hv
    exact ⟨.key, by rw [filter_ids_path t hwf ax hn layout hl, if_neg (by rw [hv]; exact Bool.false_ne_true)]⟩
  | pred p => simp [validKeep] at hv
  | other => exact ⟨.type, rfl⟩

theorem isEmptyTable_axis (r : Table α) (ax : Axis) :
    isEmptyTable r = ((r.ids ax).isEmpty || (r.ids ax.other).isEmpty) := by
  cases ax <;> simp [isEmptyTable, Table.ids, Axis.other, Bool.or_comm]

/-- the profile only decides whether the call raises: the receiver ends up the same, and without the
profile `filterCallP` is `filterCall` -/
theorem filterCallP_after [Zero α] (emptyRaise : Bool) (t : Table α) (layout : CS α) (ax : Axis) (keep : Keep α)
    (invert inplace : Bool) :
    (filterCallP emptyRaise t layout ax keep invert inplace).after = (filterCall t layout ax keep invert inplace).after ∧
    filterCallP false t layout ax keep invert inplace = filterCall t layout ax keep invert inplace := by
  unfold filterCallP
  generalize filterCall t layout ax keep invert inplace = o
  obtain ⟨res, aft, cl⟩ := o
  constructor
  · cases res with
    | error e => rfl
    | ok r => simp only; split <;> rfl
  · cases res <;> simp

/-- **model_holds_under_profile**: with or without `empty='raise'` in force, the declarative predicate is
true of the model's observation — an emptying request raises `TableException`, a copying call leaves the
receiver alone, an in-place call leaves the (empty) specified result behind -/
theorem model_holds_under_profile [Zero α] [DecidableEq α] (emptyRaise : Bool) (t : Table α) (hwf : t.WF)
    (ax : Axis) (hn : (t.ids ax).Nodup) (layout : CS α) (hl : LayoutOf t ax layout) (keep : Keep α)
    (invert inplace : Bool) :
    verdictFilterP emptyRaise t ax keep invert inplace
      { modelFilterObs t layout ax keep invert inplace with
        result := (filterCallP emptyRaise t layout ax keep invert inplace).result } = none := by
  have hbase : ∀ ip, verdictFilter t ax keep invert ip (modelFilterObs t layout ax keep invert ip) = none :=
    fun ip => Option.isNone_iff_eq_none.mp (model_holds t hwf ax hn layout hl keep invert ip)
  unfold verdictFilterP
  cases hv : validKeep t ax keep with
  | false =>
    obtain ⟨e, he⟩ := tableFilter_invalid t hwf ax hn layout hl keep invert hv
    have hP : (filterCallP emptyRaise t layout ax keep invert inplace).result =
        (modelFilterObs t layout ax keep invert inplace).result := by
      show _ = (filterCall t layout ax keep invert inplace).result
      simp only [filterCallP, filterCall_error he]
    rw [Bool.and_false, Bool.false_and, if_neg Bool.false_ne_true, hP]
    exact hbase inplace
  | true =>
    obtain ⟨r, calls, hr, hids, hother⟩ := tableFilter_valid t hwf ax hn layout hl keep invert hv
    have hM : (modelFilterObs t layout ax keep invert inplace).result = .ok r :=
      congrArg FilterOut.result (filterCall_ok hr inplace)
    have hA : (modelFilterObs t layout ax keep invert inplace).after = if inplace then r else t :=
      congrArg FilterOut.after (filterCall_ok hr inplace)
    have hP : (filterCallP emptyRaise t layout ax keep invert inplace).result =
        if emptyRaise && isEmptyTable r then .error .tableException else .ok r := by
      simp only [filterCallP, filterCall_ok hr]
      split <;> rfl
    rw [Bool.and_true, hP, isEmptyTable_axis r ax, hids, hother]
    cases hc : emptyRaise && ((keptIds t ax keep invert).isEmpty || (t.ids ax.other).isEmpty) with
    | false =>
      rw [if_neg Bool.false_ne_true, if_neg Bool.false_ne_true, ← hM]
      exact hbase inplace
    | true =>
      simp only [if_true, allV_cons_eq_none, allV_nil, chk_eq_none_iff, eqb_iff, errOf, and_true, true_and]
      cases inplace with
      | false => simp only [Bool.false_eq_true, if_false, chk_eq_none_iff, eqb_iff, hA]
      | true =>
        -- the receiver holds the result, so judging it as the result is judging the model's own observation
        have hres : Except.ok (modelFilterObs t layout ax keep invert true).after =
            (modelFilterObs t layout ax keep invert true).result := by rw [hA, hM]; rfl
        rw [if_pos rfl, hres]
        exact hbase true

/-! ## The table's own by-ID lookups -/

/-- **model_lookups_hold**: in the model a coherent table with distinct IDs answers `index(id)` with the
ID's position, `data(id)` with the vector at that position, and knows none of the removed IDs -/
theorem model_lookups_hold [DecidableEq α] (r : Table α) (hwf : r.WF) (hno : r.obs.Nodup) (hns : r.samp.Nodup)
    (removedObs removedSamp : List Id) (h1 : ∀ id ∈ removedObs, id ∉ r.obs) (h2 : ∀ id ∈ removedSamp, id ∉ r.samp) :
    holdsLookups r (lookupsOf r removedObs removedSamp) = true := by
  have e1 := map_indexOf?_self r.obs hno
  have e2 := map_indexOf?_self r.samp hns
  have e3 := map_vec?_self r .obs hno hwf.1
  have e4 := map_vec?_self r .samp hns (by simp [vecs, transposeGrid, Table.ids])
  have e5 : removedObs.filter (fun id => r.obs.contains id) = [] := by
    rw [List.filter_eq_nil_iff]; intro id hid; simpa using h1 id hid
  have e6 : removedSamp.filter (fun id => r.samp.contains id) = [] := by
    rw [List.filter_eq_nil_iff]; intro id hid; simpa using h2 id hid
  simp only [Table.ids, vecs] at e3 e4
  simp only [holdsLookups, lookupsOf, e1, e2, e3, e4, e5, e6, eqb_self, vecs, List.append_nil, Bool.and_self]

/-- the result of a filter has distinct IDs and none of the IDs it dropped, so `model_lookups_hold` applies
to it with `removed` = the dropped IDs -/
theorem filter_result_lookups [DecidableEq α] (t : Table α) (hwf : t.WF) (hno : t.obs.Nodup) (hns : t.samp.Nodup)
    (ax : Axis) (f : Id → Bool) :
    let r := filterAxis t ((t.ids ax).map f) ax
    let dropped := (t.ids ax).filter (fun id => !f id)
    holdsLookups r (match ax with
      | .obs => lookupsOf r dropped []
      | .samp => lookupsOf r [] dropped) = true := by
  intro r dropped
  have hs : FilterSpec t r ax f := filterAxis_meets_spec t hwf ax (by cases ax <;> assumption) f
  have hdrop : ∀ id ∈ dropped, id ∉ r.ids ax := by
    intro id hid hmem
    rw [hs.ids] at hmem
    have h1 := (List.mem_filter.mp hid).2
    have h2 := (List.mem_filter.mp hmem).2
    simp [h2] at h1
  cases ax with
  | obs =>
    have hro : r.obs.Nodup := by
      have := hs.ids; simp only [Table.ids] at this; rw [this]; exact hno.filter _
    exact model_lookups_hold r hs.wf hro hns dropped [] hdrop (fun _ h => by cases h)
  | samp =>
    have hrs : r.samp.Nodup := by
      have := hs.ids; simp only [Table.ids] at this; rw [this]; exact hns.filter _
    exact model_lookups_hold r hs.wf hno hrs [] dropped (fun _ h => by cases h) hdrop

/-! ## Non-vacuity: a concrete receiver whose layout is UNSORTED and holds a stored zero -/

namespace Example

deriving instance DecidableEq for Except

def t0 : Table Int :=
  { obs := ["o1", "o2", "o3"], samp := ["s1", "s2", "s3"], rows := [[1, 2, 3], [0, 1, 0], [4, 0, 5]],
    omd := some [[("grp", "a")], [("grp", "b")], [("grp", "a")]], smd := none, ttype := some "OTU table" }

/-- CSR after `sort_order(['s3','s1','s2'])`-like history: indices out of order, `(o2,s1)` stored as 0 -/
def rowLayout : CS Int := ofSlices 3 [[(2, 3), (0, 1), (1, 2)], [(1, 1), (0, 0)], [(2, 5), (0, 4)]]
/-- CSC of the same content, also out of order -/
def colLayout : CS Int := ofSlices 3 [[(2, 4), (0, 1)], [(1, 1), (0, 2)], [(2, 5), (0, 3)]]

theorem t0_wf : t0.WF :=
  ⟨rfl, by decide +kernel, fun m h => by cases h; rfl, fun m h => by cases h⟩

theorem rowLayout_of : LayoutOf t0 .obs rowLayout where
  wf := wf_ofSlices _ _ (by decide +kernel) (by decide +kernel)
  nMajor := rfl
  nMinor := rfl
  dense := by decide +kernel

theorem colLayout_of : LayoutOf t0 .samp colLayout where
  wf := wf_ofSlices _ _ (by decide +kernel) (by decide +kernel)
  nMajor := rfl
  nMinor := rfl
  dense := by decide +kernel

/-- the layout really is unsorted, so the kernel alone would hand out wrong vectors… -/
example : ¬ rowLayout.SortedIndices := by
  intro h
  have := h 0 (by decide +kernel)
  revert this
  decide

example : (genMask (fun v _ _ => v.head? == some 1) false rowLayout 0 t0.obs [none, none, none] [0, 0, 0]).map (·.2.map (·.vec)) =
    .ok [[0, 0, 3], [0, 1, 3], [0, 0, 5]] := by decide +kernel   -- the 3 in the second vector is the stale buffer

/-- …and `Table.filter` (sort, then kernel) hands out the true ones and keeps exactly `o1` -/
example : (tableFilter t0 rowLayout .obs (.pred (fun v _ _ => v.head? == some 1)) false) =
    .ok ({ t0 with obs := ["o1"], rows := [[1, 2, 3]], omd := some [[("grp", "a")]] },
         [⟨[1, 2, 3], "o1", some [("grp", "a")]⟩, ⟨[0, 1, 0], "o2", some [("grp", "b")]⟩,
          ⟨[4, 0, 5], "o3", some [("grp", "a")]⟩]) := by decide +kernel

example : (tableFilter t0 colLayout .samp (.ids ["s3", "s1"]) true).map (·.1) =
    .ok { t0 with samp := ["s2"], rows := [[2], [1], [0]] } := by decide +kernel

/-- the general theorems apply to it -/
example (p : Pred Int) (invert inplace : Bool) :
    holdsFilter t0 .obs (.pred p) invert inplace (modelFilterObs t0 rowLayout .obs (.pred p) invert inplace) = true :=
  model_holds t0 t0_wf .obs (by decide +kernel) rowLayout rowLayout_of _ _ _

example : (filterCall t0 colLayout .samp (.ids ["s1", "zz"]) false true).result = .error .key ∧
    (filterCall t0 colLayout .samp (.ids ["s1", "zz"]) false true).after = t0 :=
  unknown_id_unchanged t0 t0_wf .samp (by decide +kernel) colLayout colLayout_of _ _ _ "zz" (by decide +kernel)
    (by decide +kernel)

/-- `remove_empty` keeps a zero-sum vector and a negative one, drops only the all-zero one -/
def t1 : Table Int :=
  { obs := ["a", "b", "c"], samp := ["x", "y", "z"], rows := [[-1, 0, 1], [0, 0, 0], [-3, 0, 0]] }

def t1Layout : CS Int := ofSlices 3 [[(2, 1), (0, -1)], [(1, 0)], [(0, -3)]]

theorem t1_layout_of : LayoutOf t1 .obs t1Layout where
  wf := wf_ofSlices _ _ (by decide +kernel) (by decide +kernel)
  nMajor := rfl
  nMinor := rfl
  dense := by decide +kernel

theorem t1_wf : t1.WF := by
  refine ⟨rfl, by decide +kernel, ?_, ?_⟩ <;> intro m h <;> cases h

example : removeEmptyAxis t1 t1Layout .obs = .ok { t1 with obs := ["a", "c"], rows := [[-1, 0, 1], [-3, 0, 0]] } := by
  rw [removeEmpty_exact t1 t1_wf .obs (by decide +kernel) t1Layout t1_layout_of]
  rfl

/-- `axis='whole'`: column `y` and row `b` go, the zero-sum row `a` and the negative row `c` stay -/
def t1ColLayout : CS Int := ofSlices 3 [[(2, -3), (0, -1)], [], [(0, 1)]]
def t1MidLayout : CS Int := ofSlices 2 [[(1, 1), (0, -1)], [], [(0, -3)]]

example : ∃ r, removeEmpty t1 (fun _ ax => match ax with | .samp => t1ColLayout | .obs => t1MidLayout) .whole = .ok r ∧
    BlockSpec t1 r ["a", "c"] ["x", "z"] := by
  have h := removeEmpty_whole t1 t1_wf (by decide +kernel) (by decide +kernel)
    (fun _ ax => match ax with | .samp => t1ColLayout | .obs => t1MidLayout)
    { wf := wf_ofSlices _ _ (by decide +kernel) (by decide +kernel), nMajor := rfl, nMinor := rfl,
      dense := by decide +kernel }
    (fun t1' ht => by
      subst ht
      exact { wf := wf_ofSlices _ _ (by decide +kernel) (by decide +kernel), nMajor := by decide +kernel,
              nMinor := by decide +kernel, dense := by decide +kernel })
  have e1 : t1.obs.filter (nonEmptyId t1 .obs) = ["a", "c"] := by decide +kernel
  have e2 : t1.samp.filter (nonEmptyId t1 .samp) = ["x", "z"] := by decide +kernel
  rw [e1, e2] at h
  exact h

example : removeRows rowLayout [true, false, true] =
    .ok { nMajor := 2, nMinor := 3, indptr := [0, 3, 5], indices := [2, 0, 1, 2, 0], data := [3, 1, 2, 5, 4] } := by
  decide +kernel

end Example

end Biom.C08
