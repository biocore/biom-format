/-
  C02 — property theorems.  Every statement is for EVERY table of the property's domain (any number
  of observations and samples, any grid, any sparsity pattern — all-zero rows anywhere, all-zero
  table, single row, single column, the 0 x 0 table), any IDs, any metadata values (arbitrarily
  nested), any table id / type / generated-by / date strings, any number type `ν`.
-/
import BiomModel.Lemmas.C02

namespace Biom.C02

variable {ν : Type}

/-- Round trip of the token layer: the canonical emission of any JSON value parses back to it
(so a text whose tokens are a canonical emission is well-formed JSON). -/
theorem parse_emit (j : J ν) : parseToks (emit j) = some j := by
  unfold parseToks
  have := pVal_emit j ((emit j).length + 1) [] (Nat.le_succ _)
  rw [List.append_nil] at this
  rw [this]

/-- The returned-string path writes exactly the canonical emission of the document the table
denotes: every comma is in place for every shape of the domain. -/
theorem writeToks_eq_emit [DecidableEq ν] [Zero ν] (t : JT ν) (genBy date : String)
    (hwf : t.wfb = true) (hdom : t.inDomain = true) :
    writeToks t genBy date = emit (docOf t genBy date) :=
  toJsonToks_eq_emit false t genBy date hwf hdom

/-- The streamed (`direct_io`) path writes the canonical emission of the same fields in its own key order. -/
theorem writeToksDirect_eq_emit [DecidableEq ν] [Zero ν] (t : JT ν) (genBy date : String)
    (hwf : t.wfb = true) (hdom : t.inDomain = true) :
    writeToksDirect t genBy date = emit (docOfDirect t genBy date) :=
  toJsonToks_eq_emit true t genBy date hwf hdom

/-- "The writer emits well-formed JSON": both texts parse, to the documents the table denotes. -/
theorem well_formed [DecidableEq ν] [Zero ν] (t : JT ν) (genBy date : String)
    (hwf : t.wfb = true) (hdom : t.inDomain = true) :
    parseToks (writeToks t genBy date) = some (docOf t genBy date) ∧
    parseToks (writeToksDirect t genBy date) = some (docOfDirect t genBy date) := by
  rw [writeToks_eq_emit t genBy date hwf hdom, writeToksDirect_eq_emit t genBy date hwf hdom]
  exact ⟨parse_emit _, parse_emit _⟩

/-- "The streamed form emits the same document as the returned-string form": both parse, and the
two documents are equal as JSON values (identical once the fields of every object are sorted by
key — the two paths only differ in key order). -/
theorem direct_same_doc [DecidableEq ν] [Zero ν] (t : JT ν) (genBy date : String)
    (hwf : t.wfb = true) (hdom : t.inDomain = true) :
    ∃ dS dD, parseToks (writeToks t genBy date) = some dS ∧
      parseToks (writeToksDirect t genBy date) = some dD ∧
      dD.canon = dS.canon ∧ J.eqv dS dD = true := by
  obtain ⟨h1, h2⟩ := well_formed t genBy date hwf hdom
  exact ⟨_, _, h1, h2, docOfDirect_canon t genBy date,
    (J.eqv_iff _ _).2 (docOfDirect_canon t genBy date).symm⟩

/-- every field a reader looks up has the same value in both documents -/
theorem direct_same_fields [DecidableEq ν] [Zero ν] (t : JT ν) (genBy date : String) (k : String)
    (hk : k ∈ ["id", "format", "format_url", "matrix_type", "generated_by", "date", "type",
               "matrix_element_type", "shape", "data", "rows", "columns"]) :
    (docOfDirect t genBy date).get? k = (docOf t genBy date).get? k := by
  have hD := docOfDirect_fields t genBy date
  have hS := docOf_fields t genBy date
  simp only [List.mem_cons, List.mem_nil_iff, or_false] at hk
  rcases hk with rfl | rfl | rfl | rfl | rfl | rfl | rfl | rfl | rfl | rfl | rfl | rfl
  · exact hD.id.trans hS.id.symm
  · exact hD.format.trans hS.format.symm
  · exact hD.format_url.trans hS.format_url.symm
  · exact hD.matrix_type.trans hS.matrix_type.symm
  · exact hD.generated_by.trans hS.generated_by.symm
  · exact hD.date.trans hS.date.symm
  · exact hD.type.trans hS.type.symm
  · exact hD.matrix_element_type.trans hS.matrix_element_type.symm
  · exact hD.shape.trans hS.shape.symm
  · exact hD.data.trans hS.data.symm
  · exact hD.rows.trans hS.rows.symm
  · exact hD.columns.trans hS.columns.symm

/-- the table's validity conditions for reading back: shape, distinct IDs on each axis (a table
invariant), every metadata entry `None` or a mapping -/
def JT.valid (t : JT ν) : Bool :=
  t.wfb && decide t.obs.Nodup && decide t.samp.Nodup && mdOk t.omd && mdOk t.smd

theorem JT.valid_iff (t : JT ν) : t.valid = true ↔
    t.wfb = true ∧ t.obs.Nodup ∧ t.samp.Nodup ∧ mdOk t.omd = true ∧ mdOk t.smd = true := by
  simp [JT.valid, and_assoc]

/-- "Parsing it back yields the same IDs in order, the same per-ID metadata, table type,
generated-by and creation date, and exactly the same matrix values": `from_json` applied to the
document returns the table (metadata in the constructor's normal form: an axis whose entries are
all empty has no metadata, otherwise `None` entries are empty mappings).  `hadd` is the only fact
about the number type that is used (an entry named once is summed with nothing). -/
theorem docToTable_docOf [DecidableEq ν] [Add ν] [Zero ν] [IntCast ν] (hadd : ∀ v : ν, v + 0 = v)
    (t : JT ν) (genBy date : String) (hv : t.valid = true) :
    docToTable (docOf t genBy date) =
      .ok { obs := t.obs, samp := t.samp, omd := normMd t.omd, smd := normMd t.smd, ttype := t.ttype,
            genBy := some genBy, date := some date, rows := t.rows } := by
  obtain ⟨hwf, hno, hns, hmo, hms⟩ := (JT.valid_iff t).1 hv
  exact docToTable_of_fields hadd (docOf_fields t genBy date) hwf hno hns hmo hms

/-- "no value is rounded, truncated or dropped": the data block lists, for every cell, exactly the
cell's value when it is not zero and nothing otherwise -/
theorem data_exact [DecidableEq ν] [Zero ν] (rows : List (List ν)) (i j : Nat) :
    entriesAt (triplesFrom 0 rows) i j =
      (match cellAt rows i j with
       | some v => if v = 0 then [] else [v]
       | none => []) :=
  entriesAt_triples rows i j

/-- reading the written text back gives exactly the grid -/
theorem roundtrip_grid [DecidableEq ν] [Add ν] [Zero ν] [IntCast ν] (hadd : ∀ v : ν, v + 0 = v)
    (t : JT ν) (genBy date : String) (hv : t.valid = true) (hdom : t.inDomain = true) :
    ∃ d r, parseToks (writeToks t genBy date) = some d ∧ docToTable d = .ok r ∧
      r.rows = t.rows ∧ r.obs = t.obs ∧ r.samp = t.samp ∧ r.ttype = t.ttype ∧
      r.genBy = some genBy ∧ r.date = some date ∧ r.omd = normMd t.omd ∧ r.smd = normMd t.smd := by
  have hwf := ((JT.valid_iff t).1 hv).1
  exact ⟨_, _, (well_formed t genBy date hwf hdom).1, docToTable_docOf hadd t genBy date hv,
    rfl, rfl, rfl, rfl, rfl, rfl, rfl, rfl⟩

/-- The property's predicate holds of the model's observation, for every table of the domain. -/
theorem model_holds [DecidableEq ν] [Add ν] [Zero ν] [IntCast ν] (hadd : ∀ v : ν, v + 0 = v)
    (inp : Input ν) (hv : inp.t.valid = true) (hdom : inp.t.inDomain = true) :
    holds inp (model inp) = true := by
  have hwf := ((JT.valid_iff inp.t).1 hv).1
  obtain ⟨hS, hD⟩ := well_formed inp.t inp.genBy inp.date hwf hdom
  refine (holds_iff inp _).2 ⟨_, _, hS, hD, (J.eqv_iff _ _).2 (docOfDirect_canon _ _ _).symm,
    checkDoc_of_fields inp _ (docOf_fields _ _ _) hwf,
    checkDoc_of_fields inp _ (docOfDirect_fields _ _ _) hwf, ?_⟩
  intro nr hnr
  cases List.mem_singleton.1 hnr
  rw [docToTable_docOf hadd inp.t inp.genBy inp.date hv]
  exact (checkRead_ok_eq_none inp _ _).2 ⟨rfl, rfl, rfl, mdSame_refl _, mdSame_refl _, rfl, rfl, rfl⟩

/-! ### the domain hypothesis is needed (remarks; tables with exactly one empty axis are outside
the property's quantifier) -/

/-- A 1 x 0 table: the closing bracket of `columns` is only written with the last sample, so the
text is not JSON. -/
theorem nx0_not_wellformed_witness :
    (parseToks (writeToks (ν := Int) ⟨"None", none, ["a"], [], [.null], [], [[]]⟩ "g" "d")).isNone = true := by
  decide +kernel

/-- A 0 x 1 table: the empty-table special case fires on "no rows" and discards the sample IDs. -/
theorem zeroxm_drops_samples_witness :
    writeToks (ν := Int) ⟨"None", none, [], ["x"], [], [.null], []⟩ "g" "d" ≠
      emit (docOf (ν := Int) ⟨"None", none, [], ["x"], [], [.null], []⟩ "g" "d") := by
  decide +kernel

/-! ### non-vacuity: the hypotheses are met by concrete non-trivial inputs -/

/-- 3 x 2, an all-zero row in the middle, metadata of several kinds with nesting, quotes in strings -/
def demoT : JT Int :=
  { tableId := "a\"b\\c", ttype := some "OTU \"table\"",
    obs := ["o\"1", "o2", "o\\3"], samp := ["s1", "s2"],
    omd := [.obj [("k", .arr [.int 1, .arr [.null, .bool true]]), ("t", .str "x\"y")], .obj [], .null],
    smd := [.null, .null],
    rows := [[1, 0], [0, 0], [0, -7]] }

def demoIn : Input Int := { t := demoT, genBy := "gen\"by", date := "2020-01-02T03:04:05" }

example : demoT.valid = true ∧ demoT.inDomain = true := by decide
example : (triplesFrom 0 demoT.rows) = [(0, 0, 1), (2, 1, -7)] := by decide
example : holds demoIn (model demoIn) = true :=
  model_holds (by intro v; omega) demoIn (by decide) (by decide)
example : (writeToks demoT "g" "d").length = 136 := by decide +kernel
/-- the all-zero table and the 0 x 0 table are in the domain -/
example : (⟨"None", none, ["a", "b"], ["x"], [.null, .null], [.null], [[0], [0]]⟩ : JT Int).valid = true ∧
    (⟨"None", none, ["a", "b"], ["x"], [.null, .null], [.null], [[0], [0]]⟩ : JT Int).inDomain = true := by decide
example : (⟨"None", none, [], [], [], [], []⟩ : JT Int).valid = true ∧
    (⟨"None", none, [], [], [], [], []⟩ : JT Int).inDomain = true := by decide
/-- the predicate is not trivially true: dropping the comma between two data entries, or changing a
value, makes it false -/
example : holds demoIn { model demoIn with toksS := (writeToks demoT "gen\"by" "2020-01-02T03:04:05").eraseIdx 51 } = false := by
  decide +kernel
example : holds demoIn { model demoIn with
    reads := [("r", .ok { obs := demoT.obs, samp := demoT.samp, omd := normMd demoT.omd, smd := normMd demoT.smd,
                          ttype := demoT.ttype, genBy := some "gen\"by", date := some "2020-01-02T03:04:05",
                          rows := [[1, 0], [0, 0], [0, 7]] })] } = false := by
  refine Bool.eq_false_iff.2 fun h => ?_
  obtain ⟨_, _, _, _, _, _, _, hr⟩ := (holds_iff _ _).1 h
  have hgrid := ((checkRead_ok_eq_none _ _ _).1 (hr _ (List.mem_singleton.2 rfl))).2.2.1
  exact absurd hgrid (by decide)

end Biom.C02
