/-
  C01 — property theorems.  For EVERY table (any shape incl. empty axes, any grid, any IDs, metadata
  of the per-category-homogeneous domain with '@'-free category names and list-valued hierarchical
  categories, type / id absent or non-empty, any group metadata), every `generated_by`, every date,
  every utf-8 and date codec satisfying the round-trip contracts and EVERY pair of matrix layouts
  satisfying the scipy contract: loading the written tree — through either axis and through any of
  the three loaders — gives back the IDs in order, the grid, the metadata, type, id-or-placeholder,
  generated-by, date and group-metadata payload.
-/
import BiomModel.Lemmas.C01
import BiomModel.Props.C04

set_option linter.unusedSectionVars false

namespace Biom.C01
open Biom Biom.Hdf5 Biom.C04

variable {α δ : Type} [Zero α] [DecidableEq α]

theorem type_rt (ty : Option String) (h : ty ≠ some "") :
    (if typeAttr ty = "" then none else some (typeAttr ty)) = ty := by
  cases ty with
  | none => exact if_pos rfl
  | some s => exact if_neg fun e => h (congrArg some e)

theorem idAttr_rt (tid : Option String) (h : tid ≠ some "") :
    idAttr tid = (match (motive := Option String → String) tid with | some s => s | none => "No Table ID") := by
  cases tid with
  | none => rfl
  | some s => exact if_neg fun e => h (congrArg some e)

/-- for a variable tree, for the reason given above `section tree` in Props/C04 -/
theorem fromH5_of_tree (c : Utf8) (hc : c.RT) (dc : DateC δ) (hdc : dc.RT) (t : Src α) (genBy : String)
    (date : Option δ) (now : δ) (csr csc : CS α) (hw : SrcWF t) (hv : Views t csr csc)
    (hmo : mdDomain t.omd = true) (hms : mdDomain t.smd = true) (hao : rtDomain t.omd) (has : rtDomain t.smd)
    (hh : HeaderOK t) (ax : Axis) (h : H5 α) (ha : h.attrs = attrTree dc t genBy date now csr)
    (hobs : h.obs = some (axTree c t.obs t.omd (gmdAll t.ogmd t.ogmdBare) csr))
    (hsamp : h.samp = some (axTree c t.samp t.smd (gmdAll t.sgmd t.sgmdBare) csc)) :
    fromH5 c dc h ax = .ok (expected t genBy (date.getD now)) := by
  obtain ⟨hgb, hcd, hid, hty⟩ := attrStr_of_attrTree dc t genBy date now csr h ha
  have hlo := axisLoad_axTree c hc t.obs t.omd (gmdAll t.ogmd t.ogmdBare) csr hw.omdLen hmo hao
  have hls := axisLoad_axTree c hc t.samp t.smd (gmdAll t.sgmd t.sgmdBare) csc hw.smdLen hms has
  unfold fromH5
  simp only [hid, hcd, hgb, hty, attrShape_of_attrTree _ _ _ _ _ _ h ha, hv.csrMajor, hv.csrMinor, hdc _, hobs, hsamp,
    reqE, hlo, hls, type_rt t.ttype hh.typeNe, bind, Except.bind]
  cases ax with
  | obs =>
    simp only [H5.ax, hobs, axTree, loadView_matTree csr _ _ hv.csrMajor hv.csrMinor, (CS.wfb_iff csr).mpr hv.csrWF, if_true,
      hv.csrDense, pure, Except.pure, and_self, expected]
  | samp =>
    simp only [H5.ax, hsamp, axTree, loadView_matTree csc _ _ hv.cscMajor hv.cscMinor, (CS.wfb_iff csc).mpr hv.cscWF, if_true,
      hv.cscDense, transpose_transpose t.rows _ _ hw.rowsLen hw.rowLen, pure, Except.pure, and_self, expected]

/-- The reader on the written tree, through either axis: everything comes back (FULL: IDs, grid,
metadata, header fields, group metadata). -/
theorem fromH5_written (c : Utf8) (hc : c.RT) (dc : DateC δ) (hdc : dc.RT) (t : Src α) (genBy : String)
    (date : Option δ) (now : δ) (csr csc : CS α) (hw : SrcWF t) (hv : Views t csr csc)
    (hmo : mdDomain t.omd = true) (hms : mdDomain t.smd = true) (hao : rtDomain t.omd) (has : rtDomain t.smd)
    (hh : HeaderOK t) (ax : Axis) :
    fromH5 c dc (written c dc t genBy date now csr csc) ax = .ok (expected t genBy (date.getD now)) :=
  fromH5_of_tree c hc dc hdc t genBy date now csr csc hw hv hmo hms hao has hh ax _ rfl rfl rfl

/-- `from_hdf5(to_hdf5(t))`, as a statement about the two model functions -/
theorem fromH5_toH5 (c : Utf8) (hc : c.RT) (dc : DateC δ) (hdc : dc.RT) (t : Src α) (genBy : String)
    (date : Option δ) (now : δ) (csr csc : CS α) (hw : SrcWF t) (hv : Views t csr csc)
    (hmo : mdDomain t.omd = true) (hms : mdDomain t.smd = true) (hao : rtDomain t.omd) (has : rtDomain t.smd)
    (hh : HeaderOK t) (ax : Axis) :
    (toH5 c dc t genBy date now csr csc).bind (fun h => fromH5 c dc h ax) =
      .ok (expected t genBy (date.getD now)) := by
  rw [toH5_written c dc t genBy date now csr csc hw hv hmo hms, Except.bind]
  exact fromH5_written c hc dc hdc t genBy date now csr csc hw hv hmo hms hao has hh ax

/-- The three loaders differ only by their sniffing prelude: whenever `from_hdf5` succeeds on a
tree that was written as an HDF5 file, `parse_table` and `load_table` return the same table. -/
theorem loaders_agree (c : Utf8) (dc : DateC δ) (h : H5 α) (r : Loaded α δ)
    (hr : fromH5 c dc h .samp = .ok r) (l : Loader) : load c dc Sniff.written l h = .ok r := by
  cases l <;> simp [load, loadTable, parseBiomTable, Sniff.written, hr]

/-- what `holds` demands is true of the expected result -/
theorem holds_expected [DecidableEq δ] (t : Src α) (genBy : String) (date : Option δ) (now : δ)
    (hw : SrcWF t) (hmo : mdDomain t.omd = true) (hms : mdDomain t.smd = true) (hh : HeaderOK t) :
    holds t genBy date (.ok (expected t genBy (date.getD now))) = true := by
  have hdate : (match date with | some d => (DateVal.date (date.getD now) == DateVal.date d) | none => true) = true := by
    cases date with
    | none => rfl
    | some d => exact beq_self_eq_true _
  simp only [holds, clauses, expected, List.all_cons, List.all_nil, Bool.and_true, Bool.and_eq_true]
  exact ⟨beq_self_eq_true _, beq_self_eq_true _,
    ⟨beq_iff_eq.mpr hw.rowsLen, List.all_eq_true.mpr fun r hr => beq_iff_eq.mpr (hw.rowLen r hr)⟩,
    List.all_eq_true.mpr fun _ _ => List.all_eq_true.mpr fun _ _ => beq_self_eq_true _,
    mdClause_normMd t.obs t.omd hmo, mdClause_normMd t.samp t.smd hms, beq_self_eq_true _,
    beq_iff_eq.mpr (idAttr_rt _ hh.idNe), beq_self_eq_true _, hdate,
    gmdClause_loaded t.ogmd t.ogmdBare hh.ogmdKeys, gmdClause_loaded t.sgmd t.sgmdBare hh.sgmdKeys⟩

/-- The property on the model: write, then load with any loader — `C01.holds` is true. `compress`
is not an input of `toH5`, so the statement covers both settings. -/
theorem model_holds [DecidableEq δ] (c : Utf8) (hc : c.RT) (dc : DateC δ) (hdc : dc.RT) (t : Src α)
    (genBy : String) (date : Option δ) (now : δ) (csr csc : CS α) (hw : SrcWF t) (hv : Views t csr csc)
    (hmo : mdDomain t.omd = true) (hms : mdDomain t.smd = true) (hao : rtDomain t.omd) (has : rtDomain t.smd)
    (hh : HeaderOK t) (l : Loader) :
    holds t genBy date ((toH5 c dc t genBy date now csr csc).bind (load c dc Sniff.written l)) = true := by
  rw [toH5_written c dc t genBy date now csr csc hw hv hmo hms]
  have := fromH5_written c hc dc hdc t genBy date now csr csc hw hv hmo hms hao has hh .samp
  simp only [Except.bind, loaders_agree c dc _ _ this l]
  exact holds_expected t genBy date now hw hmo hms hh

/-- through the observation axis as well (`Table.from_hdf5(h, axis='observation')`) -/
theorem model_holds_obs_axis [DecidableEq δ] (c : Utf8) (hc : c.RT) (dc : DateC δ) (hdc : dc.RT) (t : Src α)
    (genBy : String) (date : Option δ) (now : δ) (csr csc : CS α) (hw : SrcWF t) (hv : Views t csr csc)
    (hmo : mdDomain t.omd = true) (hms : mdDomain t.smd = true) (hao : rtDomain t.omd) (has : rtDomain t.smd)
    (hh : HeaderOK t) :
    holds t genBy date ((toH5 c dc t genBy date now csr csc).bind (fun h => fromH5 c dc h .obs)) = true := by
  rw [fromH5_toH5 c hc dc hdc t genBy date now csr csc hw hv hmo hms hao has hh .obs]
  exact holds_expected t genBy date now hw hmo hms hh

/-- A category name containing the escape text itself does not survive: `'a@@SLASH@@b'` is read
back as `'a/b'` (outside the guard `rtDomain`). -/
theorem slash_witness : unsanitize (sanitize "a@@SLASH@@b") = "a/b" := by decide +kernel

/-- … while names with '/' do -/
example : unsanitize (sanitize "na/me/") = "na/me/" := by decide +kernel

/-! Non-vacuity: the demo table of C04 (text + hierarchical + numeric metadata, a '/' in a category
name, unsorted indices in the row view) meets every hypothesis, and the round trip is computed. -/
example : rtDomain demoSrc.omd := by
  intro e0 es h k hk
  simp only [demoSrc, Option.some.injEq, List.cons.injEq] at h
  obtain ⟨rfl, rfl⟩ := h
  revert k hk; decide +kernel
example : HeaderOK demoSrc := ⟨by decide +kernel, by decide +kernel, by decide +kernel, by decide +kernel⟩
example : fromH5 Utf8.ident DateC.ident (written Utf8.ident DateC.ident demoSrc "g" (some "2020-01-02") "" demoCsr demoCsc) .samp
    = .ok (expected demoSrc "g" "2020-01-02") := by decide +kernel
example : (expected demoSrc "g" "d" : Loaded Int String).omd =
    some [[("taxonomy", .list ["k__A", "p__x"]), ("na/me", .text "é")],
          [("taxonomy", .list ["k__B"]), ("na/me", .text "v")]] := by decide +kernel
/-- `holds` is not trivially true: a reader that forgets to strip the padding is refused -/
example : holds demoSrc "g" (none : Option String)
    (.ok { (expected demoSrc "g" "d" : Loaded Int String) with
      omd := some [[("taxonomy", .list ["k__A", "p__x"]), ("na/me", .text "é")],
                   [("taxonomy", .list ["k__B", ""]), ("na/me", .text "v")]] }) = false := by decide +kernel

end Biom.C01
