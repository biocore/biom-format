/-
  C09 — property theorems.  Values live in an arbitrary commutative additive monoid (`Int`, `Rat`, …);
  tables have any number of IDs in any order, any overlap between the operands, any metadata, any
  metadata-merge functions, any number of operands in the list form — no bound anywhere.
-/
import BiomModel.Lemmas.C09

set_option linter.unusedSectionVars false

namespace Biom.C09

variable {α : Type} [AddCommMonoid α] [DecidableEq α]

/-! ### the general path (two operands, all four mode pairs) -/

theorem generalMerge_ok {fs fo : MdF} {ms mo : Mode} {a b r : Table α}
    (h : generalMerge fs fo ms mo a b = .ok r) :
    newOrder ms a.samp b.samp ≠ [] ∧ newOrder mo a.obs b.obs ≠ [] ∧ r = generalTable fs fo ms mo a b := by
  rcases generalMerge_cases fs fo ms mo a b with ⟨h', _⟩ | ⟨h', h1, h2⟩
  · exact nomatch h'.symm.trans h
  · cases h'.symm.trans h
    exact ⟨h1, h2, rfl⟩

/-- "Merging tables yields, per axis, the union or the intersection of the operands' IDs as
requested" — as sets, each ID once, for each of the four mode pairs. -/
theorem merge_ids (fs fo : MdF) (ms mo : Mode) (a b r : Table α) (ha : OpWF a)
    (h : generalMerge fs fo ms mo a b = .ok r) :
    r.obs.Nodup ∧ r.samp.Nodup ∧
    (mo = .union → ∀ id, id ∈ r.obs ↔ id ∈ a.obs ∨ id ∈ b.obs) ∧
    (mo = .inter → ∀ id, id ∈ r.obs ↔ id ∈ a.obs ∧ id ∈ b.obs) ∧
    (ms = .union → ∀ id, id ∈ r.samp ↔ id ∈ a.samp ∨ id ∈ b.samp) ∧
    (ms = .inter → ∀ id, id ∈ r.samp ↔ id ∈ a.samp ∧ id ∈ b.samp) := by
  obtain ⟨_, _, rfl⟩ := generalMerge_ok h
  refine ⟨nodup_newOrder mo _ _ ha.2.1, nodup_newOrder ms _ _ ha.2.2, ?_, ?_, ?_, ?_⟩
  · rintro rfl id; exact mem_unionOrder a.obs b.obs id
  · rintro rfl id; exact mem_interOrder a.obs b.obs id
  · rintro rfl id; exact mem_unionOrder a.samp b.samp id
  · rintro rfl id; exact mem_interOrder a.samp b.samp id

/-- union order = the receiver's IDs, then the other's new ones; intersection = the receiver's
order restricted to the common IDs (not part of the property; recorded for the model) -/
theorem merge_order (fs fo : MdF) (ms mo : Mode) (a b r : Table α) (ha : OpWF a) (hb : OpWF b)
    (h : generalMerge fs fo ms mo a b = .ok r) :
    r.obs = (match mo with
      | .union => a.obs ++ b.obs.filter (fun x => decide (x ∉ a.obs))
      | .inter => a.obs.filter (fun x => decide (x ∈ b.obs))) := by
  obtain ⟨_, _, rfl⟩ := generalMerge_ok h
  cases mo
  · exact unionOrder_eq a.obs b.obs ha.2.1 hb.2.1
  · rfl

/-- "the value for every (observation, sample) pair in the result is the sum of the operands'
values for that pair (absent counts as zero)" -/
theorem merge_cell (fs fo : MdF) (ms mo : Mode) (a b r : Table α)
    (h : generalMerge fs fo ms mo a b = .ok r) (o s : Id) (ho : o ∈ r.obs) (hs : s ∈ r.samp) :
    r.cell? o s = some (cellOr0 a o s + cellOr0 b o s) := by
  obtain ⟨_, _, rfl⟩ := generalMerge_ok h
  exact general_cell fs fo ms mo a b o s ho hs

/-- "under union/union the grand total is the sum of the operands' totals" -/
theorem merge_total_union (fs fo : MdF) (a b r : Table α) (ha : OpWF a) (hb : OpWF b)
    (h : generalMerge fs fo .union .union a b = .ok r) : total r = total a + total b := by
  obtain ⟨_, _, rfl⟩ := generalMerge_ok h
  rw [total_of_good (good_general fs fo .union .union a b ha) (opWF_pair ha hb)]
  exact congrArg (total a + ·) (add_zero _)

/-- "Each ID's metadata in the result is the metadata-merge function applied to the operands'
metadata for that ID" (an absent entry is `None`; `None` and the empty mapping are identified) -/
theorem merge_md (fs fo : MdF) (ms mo : Mode) (a b r : Table α)
    (h : generalMerge fs fo ms mo a b = .ok r) (ax : Axis) (id : Id) (hid : id ∈ r.ids ax) :
    canon (r.mdOf? ax id) = canon (applyF (fOf fs fo ax) (a.mdOf? ax id) (b.mdOf? ax id)) := by
  obtain ⟨_, _, rfl⟩ := generalMerge_ok h
  rw [general_md]
  exact canon_mdAt _ hid

/-- "by default the receiver's if it has any, otherwise the other's" -/
theorem merge_md_prefer_self (ms mo : Mode) (a b r : Table α)
    (h : generalMerge (some preferSelf) (some preferSelf) ms mo a b = .ok r) (ax : Axis) (id : Id)
    (hid : id ∈ r.ids ax) :
    canon (r.mdOf? ax id) = match a.mdOf? ax id with
      | some m => m
      | none => canon (b.mdOf? ax id) := by
  rw [merge_md _ _ ms mo a b r h ax id hid]
  cases ax <;> cases a.mdOf? _ id <;> rfl

/-- a `None` metadata function carries no metadata to that axis -/
theorem merge_md_none (fs fo : MdF) (ms mo : Mode) (a b r : Table α)
    (h : generalMerge fs fo ms mo a b = .ok r) (ax : Axis) (hf : fOf fs fo ax = none) :
    r.md ax = none := by
  obtain ⟨_, _, rfl⟩ := generalMerge_ok h
  rw [generalTable_md, hf]
  refine castMd_eq_none fun m hm => ?_
  obtain ⟨_, _, rfl⟩ := List.mem_map.mp hm
  rfl

/-- the general path refuses exactly when an axis comes out empty (e.g. an empty intersection),
and then with `TableException` -/
theorem merge_refuses_iff (fs fo : MdF) (ms mo : Mode) (a b : Table α) :
    (∃ e, generalMerge fs fo ms mo a b = .error e) ↔
      (newOrder ms a.samp b.samp = [] ∨ newOrder mo a.obs b.obs = []) := by
  rcases generalMerge_cases fs fo ms mo a b with ⟨h', ax, hax⟩ | ⟨h', h1, h2⟩ <;> rw [h']
  · refine ⟨fun _ => ?_, fun _ => ⟨_, rfl⟩⟩
    cases ax
    · exact .inr hax
    · exact .inl hax
  · exact ⟨fun ⟨_, he⟩ => (nomatch he), fun h => (h.elim h1 h2).elim⟩

theorem merge_refusal_is_tableException (fs fo : MdF) (ms mo : Mode) (a b : Table α) (e : Err)
    (h : generalMerge fs fo ms mo a b = .error e) : e = .tableException := by
  rcases generalMerge_cases fs fo ms mo a b with ⟨h', _⟩ | ⟨h', _⟩
  · cases h'.symm.trans h
    rfl
  · exact nomatch h'.symm.trans h

/-- an empty intersection is refused -/
theorem merge_empty_intersection_refused (fs fo : MdF) (mo : Mode) (a b : Table α)
    (h : ∀ id, ¬ (id ∈ a.samp ∧ id ∈ b.samp)) :
    generalMerge fs fo .inter mo a b = .error .tableException :=
  if_pos (List.isEmpty_iff.mpr (List.eq_nil_iff_forall_not_mem.mpr fun id hid =>
    h id ((mem_interOrder _ _ _).mp hid)))

/-! ### the fast path (k operands) -/

/-- global ID spaces: every ID of every operand, once -/
theorem fastMerge_ids (ts : List (Table α)) :
    (fastMerge ts).obs.Nodup ∧ (fastMerge ts).samp.Nodup ∧
    (∀ id, id ∈ (fastMerge ts).obs ↔ ∃ t ∈ ts, id ∈ t.obs) ∧
    (∀ id, id ∈ (fastMerge ts).samp ↔ ∃ t ∈ ts, id ∈ t.samp) :=
  ⟨nodup_globalIds ts .obs, nodup_globalIds ts .samp, fun id => mem_globalIds ts .obs id,
    fun id => mem_globalIds ts .samp id⟩

/-- k operands: every cell is the sum over the operands, absent = 0 -/
theorem fastMerge_cell (ts : List (Table α)) (h : ∀ t ∈ ts, OpWF t) (o s : Id)
    (ho : o ∈ (fastMerge ts).obs) (hs : s ∈ (fastMerge ts).samp) :
    (fastMerge ts).cell? o s = some ((ts.map (fun t => cellOr0 t o s)).sum) :=
  fast_cell ts (fun t ht => (h t ht).2) o s ho hs

theorem fastMerge_total (ts : List (Table α)) (h : ∀ t ∈ ts, OpWF t) :
    total (fastMerge ts) = (ts.map total).sum :=
  total_of_good (good_fast ts h) h

theorem fastMerge_no_metadata (ts : List (Table α)) : (fastMerge ts).omd = none ∧ (fastMerge ts).smd = none :=
  ⟨rfl, rfl⟩

/-- "the fast path taken for metadata-free unions gives the same values and ID sets as the
general path" — whenever both are applicable (two operands, union/union, general path not refusing):
both are correct merges of the same two operands -/
theorem fast_eq_general (fs fo : MdF) (a b g : Table α) (ha : OpWF a) (hb : OpWF b)
    (h : generalMerge fs fo .union .union a b = .ok g) :
    (∀ id, id ∈ (fastMerge [a, b]).obs ↔ id ∈ g.obs) ∧
    (∀ id, id ∈ (fastMerge [a, b]).samp ↔ id ∈ g.samp) ∧
    (∀ o ∈ g.obs, ∀ s ∈ g.samp, (fastMerge [a, b]).cell? o s = g.cell? o s) ∧
    total (fastMerge [a, b]) = total g := by
  obtain ⟨_, _, rfl⟩ := generalMerge_ok h
  have hwf := opWF_pair ha hb
  have hf := good_fast [a, b] hwf
  have hg := good_general fs fo .union .union a b ha
  obtain ⟨ho, hs, hc⟩ := hf.agree hg
  exact ⟨ho, hs, hc, (total_of_good hf hwf).trans (total_of_good hg hwf).symm⟩

/-! ### the whole call: path selection, pairs and k-tuples -/

theorem merge_cases (inp : Input α) :
    (fastOk inp.fs inp.fo inp.ms inp.mo inp.operands = true ∧
      merge inp = .ok (fastMerge inp.operands)) ∨
    merge inp = foldMerge inp.fs inp.fo inp.ms inp.mo inp.a inp.others.toList := by
  unfold merge Input.operands
  cases inp.others with
  | single b => exact .inr (foldMerge_single _ _ _ _ _ _).symm
  | many ts =>
    by_cases hf : fastOk inp.fs inp.fo inp.ms inp.mo (inp.a :: ts) = true
    · exact .inl ⟨hf, if_pos hf⟩
    · exact .inr (if_neg hf)

theorem verdict_ok (inp : Input α) (r : Table α) (hts : ∀ t ∈ inp.operands, OpWF t)
    (hg : Good inp.ms inp.mo inp.operands r)
    (hneS : inp.ms = .inter → r.samp ≠ []) (hneO : inp.mo = .inter → r.obs ≠ [])
    (hmdS : mdOk inp.fs inp.ms .samp inp.a inp.others.toList r = true)
    (hmdO : mdOk inp.fo inp.mo .obs inp.a inp.others.toList r = true) :
    verdict inp (.ok r) = none := by
  apply allV_eight_clauses
  · rw [Input.operands, emptyInter_false hg.memS hneS, emptyInter_false hg.memO hneO]; rfl
  · exact (Layer.table_wfb_iff r).mpr hg.wf.1
  · exact idsOk_of_mem hg.wf.2.2 hg.memS
  · exact idsOk_of_mem hg.wf.2.1 hg.memO
  · exact cellsOk_of_good hg
  · exact totalClause_of_good hg hts
  · exact hmdS
  · exact hmdO

theorem verdict_error (inp : Input α)
    (h : ∃ ax, ((mOf inp.ms inp.mo ax == .inter && expEmpty .inter ax inp.operands) ||
      emptyUnionStart (mOf inp.ms inp.mo ax) ax inp.operands) = true) :
    verdict inp (.error .tableException) = none := by
  obtain ⟨ax, h⟩ := h
  -- the clause is `chk _ (e == .tableException && (emptyInter || emptyUnion))`, and `emptyInter`, `emptyUnion`
  -- are each "on the sample axis || on the observation axis"
  refine (chk_eq_none_iff _ _).mpr (Bool.and_eq_true_iff.mpr ⟨rfl, ?_⟩)
  cases ax <;> rcases Bool.or_eq_true_iff.mp h with h | h
  · exact Bool.or_inl (Bool.or_inr h)
  · exact Bool.or_inr (Bool.or_inr h)
  · exact Bool.or_inl (Bool.or_inl h)
  · exact Bool.or_inr (Bool.or_inl h)

theorem merge_spec (inp : Input α) (hts : ∀ t ∈ inp.operands, OpWF t) :
    (∃ r, merge inp = .ok r ∧ Good inp.ms inp.mo inp.operands r ∧
      (inp.others.toList ≠ [] → (inp.ms = .inter → r.samp ≠ []) ∧ (inp.mo = .inter → r.obs ≠ []))) ∨
    (merge inp = .error .tableException ∧
      ∃ ax, ((mOf inp.ms inp.mo ax == .inter && expEmpty .inter ax inp.operands) ||
        emptyUnionStart (mOf inp.ms inp.mo ax) ax inp.operands) = true) := by
  obtain ⟨ha, hothers⟩ := List.forall_mem_cons.mp hts
  rcases merge_cases inp with ⟨hf, hm⟩ | hm <;> rw [hm]
  · obtain ⟨hms, hmo⟩ := fastOk_modes hf
    rw [hms, hmo]
    exact .inl ⟨_, rfl, good_fast _ hts, fun _ => ⟨fun e => (nomatch e), fun e => (nomatch e)⟩⟩
  · rcases fold_spec inp.fs inp.fo inp.ms inp.mo inp.others.toList [inp.a] inp.a
      (good_single _ _ _ ha) hothers with h | ⟨hf, pre, t, post, acc, hrest, hg, ax, hemp⟩
    · exact .inl h
    · refine .inr ⟨hf, ax, ?_⟩
      rw [Input.operands, hrest]
      exact axis_empty (hg.mem ax) hemp

theorem merge_md_spec (inp : Input α) (hne : inp.others.toList ≠ []) (ax : Axis)
    (hn : Neutral (fOf inp.fs inp.fo ax)) (r : Table α) (h : merge inp = .ok r) (id : Id) :
    r.mdOf? ax id =
      (specMd (fOf inp.fs inp.fo ax) (mOf inp.ms inp.mo ax) ax inp.a inp.others.toList).md id := by
  rcases merge_cases inp with ⟨hf, hm⟩ | hm <;> rw [hm] at h
  · cases h
    obtain ⟨hms, hmo⟩ := fastOk_modes hf
    rw [hms, hmo] at hf
    rw [fastMerge_mdOf]
    exact (specMd_none_of_fast inp.fs inp.fo inp.a _ hne hf ax hn _ id).symm
  · exact (fold_md inp.fs inp.fo inp.ms inp.mo ax hn _ inp.a r _ (mdRel_ofTable ax inp.a) h).2 id

/-- **Main theorem.** For every receiver and every other table or list of tables with distinct
IDs (any sizes, orders, overlaps, metadata, prior history), every pair of modes and every pair of
metadata functions that map "no metadata, no metadata" to no metadata (or are `None`), the outcome
computed by the model of `Table.merge` satisfies the declarative predicate `holds`: ID sets per
axis, every cell the sum over the operands, union/union grand total, metadata per ID, refusal only
as `TableException` and only for an axis that comes out empty. -/
theorem model_holds (inp : Input α) (hwf : ∀ t ∈ inp.operands, opWFb t = true)
    (hne : inp.others.toList ≠ []) (hfs : Neutral inp.fs) (hfo : Neutral inp.fo) :
    holds inp (merge inp) = true := by
  have hts : ∀ t ∈ inp.operands, OpWF t := fun t ht => opWF_of_b t (hwf t ht)
  unfold holds
  rw [Option.isNone_iff_eq_none]
  rcases merge_spec inp hts with ⟨r, hm, hg, hC⟩ | ⟨hm, hax⟩ <;> rw [hm]
  · exact verdict_ok inp r hts hg (hC hne).1 (hC hne).2
      (mdOk_of_eq (merge_md_spec inp hne .samp hfs r hm))
      (mdOk_of_eq (merge_md_spec inp hne .obs hfo r hm))
  · exact verdict_error inp hax

/-! ### the whole call in the property's own words -/

/-- for a single other table the metadata specification is exactly
`canon (f (receiver's entry) (other's entry))` on every result ID -/
theorem specMd_pair (f : MdF) (m : Mode) (ax : Axis) (a b : Table α) (id : Id)
    (hid : id ∈ newOrder m (a.ids ax) (b.ids ax)) :
    canon ((specMd f m ax a [b]).md id) = canon (applyF f (a.mdOf? ax id) (b.mdOf? ax id)) := by
  rw [specMd, List.foldl_cons, List.foldl_nil, AxV.step_md_eq_mdAt]
  exact canon_mdAt _ hid

/-- every successful merge — pair or list form, whichever path each step took — is a correct
merge of all its operands -/
theorem merge_good (inp : Input α) (hts : ∀ t ∈ inp.operands, OpWF t) (r : Table α)
    (h : merge inp = .ok r) : Good inp.ms inp.mo inp.operands r := by
  rcases merge_spec inp hts with ⟨r', hm, hg, _⟩ | ⟨hm, _⟩
  · cases hm.symm.trans h
    exact hg
  · exact nomatch hm.symm.trans h

/-- k-tuples: per axis the union / the intersection of all operands' IDs, each once -/
theorem merge_list_ids (inp : Input α) (hts : ∀ t ∈ inp.operands, OpWF t) (r : Table α)
    (h : merge inp = .ok r) :
    r.obs.Nodup ∧ r.samp.Nodup ∧
    (inp.mo = .union → ∀ id, id ∈ r.obs ↔ ∃ t ∈ inp.operands, id ∈ t.obs) ∧
    (inp.mo = .inter → ∀ id, id ∈ r.obs ↔ ∀ t ∈ inp.operands, id ∈ t.obs) ∧
    (inp.ms = .union → ∀ id, id ∈ r.samp ↔ ∃ t ∈ inp.operands, id ∈ t.samp) ∧
    (inp.ms = .inter → ∀ id, id ∈ r.samp ↔ ∀ t ∈ inp.operands, id ∈ t.samp) := by
  have hg := merge_good inp hts r h
  refine ⟨hg.wf.2.1, hg.wf.2.2, ?_, ?_, ?_, ?_⟩
  · intro e id; rw [hg.memO id, e]; exact expMem_union_iff _ _ _
  · intro e id; rw [hg.memO id, e]; exact expMem_inter_iff _ _ _
  · intro e id; rw [hg.memS id, e]; exact expMem_union_iff _ _ _
  · intro e id; rw [hg.memS id, e]; exact expMem_inter_iff _ _ _

/-- k-tuples: every result cell is the sum over all operands (absent = 0) -/
theorem merge_list_cell (inp : Input α) (hts : ∀ t ∈ inp.operands, OpWF t) (r : Table α)
    (h : merge inp = .ok r) (o s : Id) (ho : o ∈ r.obs) (hs : s ∈ r.samp) :
    r.cell? o s = some ((inp.operands.map (fun t => cellOr0 t o s)).sum) :=
  (merge_good inp hts r h).cell o ho s hs

/-- k-tuples, union/union: grand total = sum of the operands' totals -/
theorem merge_list_total_union (inp : Input α) (hts : ∀ t ∈ inp.operands, OpWF t) (r : Table α)
    (h : merge inp = .ok r) (hms : inp.ms = .union) (hmo : inp.mo = .union) :
    total r = (inp.operands.map total).sum := by
  have hg := merge_good inp hts r h
  rw [hms, hmo] at hg
  exact total_of_good hg hts

/-- the whole call on a pair, whichever path is selected: metadata of each result ID is the
function applied to the operands' entries — under the domain hypothesis that the function maps
"no metadata, no metadata" to no metadata (the fast path builds a table without metadata) -/
theorem merge_pair_md (inp : Input α) (b r : Table α) (hb : inp.others = .single b)
    (hfs : Neutral inp.fs) (hfo : Neutral inp.fo) (h : merge inp = .ok r) (ax : Axis) (id : Id)
    (hid : id ∈ r.ids ax) :
    canon (r.mdOf? ax id) =
      canon (applyF (fOf inp.fs inp.fo ax) (inp.a.mdOf? ax id) (b.mdOf? ax id)) := by
  have hneut : Neutral (fOf inp.fs inp.fo ax) := by cases ax <;> assumption
  have hm : merge inp = foldMerge inp.fs inp.fo inp.ms inp.mo inp.a [b] := by
    unfold merge; rw [hb, foldMerge_single]
  rw [hm] at h
  have hrel := fold_md inp.fs inp.fo inp.ms inp.mo ax hneut [b] inp.a r _ (mdRel_ofTable ax inp.a) h
  rw [hrel.2 id]
  exact specMd_pair _ _ ax inp.a b id ((hrel.1 id).mp hid)

/-- path selection, as the code does it: fast iff (no operand carries metadata, or both functions
are `None`) and both axes are `union`; otherwise a single table goes through the general path and
a list is folded pairwise -/
theorem merge_path (inp : Input α) :
    merge inp =
      if fastOk inp.fs inp.fo inp.ms inp.mo inp.operands then .ok (fastMerge inp.operands)
      else match inp.others with
        | .single b => generalMerge inp.fs inp.fo inp.ms inp.mo inp.a b
        | .many ts => foldMerge inp.fs inp.fo inp.ms inp.mo inp.a ts := by
  unfold merge Input.operands
  cases inp.others <;> rfl

/-! ### non-vacuity: the hypotheses are met by concrete, non-trivial inputs -/

def exA : Table Int :=
  { obs := ["o1", "o2"], samp := ["s1", "s2"], rows := [[1, 2], [3, 4]] }
def exB : Table Int :=
  { obs := ["o2", "o3"], samp := ["s2", "s3"], rows := [[1, 2], [3, 4]],
    omd := some [[("k", "x")], [("k", "y")]], smd := some [[("m", "1")], [("m", "2")]] }
def exC : Table Int :=
  { obs := ["o3", "o2"], samp := ["s3", "s2"], rows := [[10, 20], [30, 40]] }
def exZ : Table Int :=
  { obs := ["o2", "o9"], samp := ["s9"], rows := [[7], [8]] }

/-- the repaired defect: receiver without metadata, other with metadata, union/union -/
def exPair : Input Int :=
  { a := exA, others := .single exB, ms := .union, mo := .union,
    fs := some preferSelf, fo := some preferSelf }
def exList : Input Int :=
  { a := exA, others := .many [exC, exC], ms := .union, mo := .union,
    fs := some preferSelf, fo := some preferSelf }
def exFold : Input Int :=
  { a := exA, others := .many [exC, exB], ms := .inter, mo := .union,
    fs := some preferSelf, fo := none }
def exEmpty : Input Int :=
  { a := exA, others := .single exZ, ms := .inter, mo := .union,
    fs := some preferSelf, fo := some preferSelf }

example : (merge exPair).toOption = some
    { obs := ["o1", "o2", "o3"], samp := ["s1", "s2", "s3"],
      rows := [[1, 2, 0], [3, 5, 2], [0, 3, 4]],
      omd := some [[], [("k", "x")], [("k", "y")]],
      smd := some [[], [("m", "1")], [("m", "2")]] } := by decide +kernel
example : trace exPair = ["general"] := rfl
example : (merge exList).toOption = some
    { obs := ["o1", "o2", "o3"], samp := ["s1", "s2", "s3"],
      rows := [[1, 2, 0], [3, 84, 60], [0, 40, 20]] } := by decide +kernel
example : trace exList = ["fast"] := rfl
example : (merge exFold).toOption = some
    { obs := ["o1", "o2", "o3"], samp := ["s2"], rows := [[2], [45], [23]],
      smd := some [[("m", "1")]] } := by decide +kernel
example : trace exFold = ["general", "general"] := by decide +kernel
example : merge exEmpty = .error .tableException := by decide +kernel
example : holds exPair (merge exPair) = true :=
  model_holds exPair (by decide +kernel) (by decide +kernel) neutral_preferSelf neutral_preferSelf
example : holds exList (merge exList) = true :=
  model_holds exList (by decide +kernel) (by decide +kernel) neutral_preferSelf neutral_preferSelf
example : holds exFold (merge exFold) = true :=
  model_holds exFold (by decide +kernel) (by decide +kernel) neutral_preferSelf neutral_none
example : holds exEmpty (merge exEmpty) = true :=
  model_holds exEmpty (by decide +kernel) (by decide +kernel) neutral_preferSelf neutral_preferSelf
/-- `holds` is not trivially true: the pre-repair outcome (metadata lost) is rejected … -/
def exLostMd : Table Int :=
  { obs := ["o1", "o2", "o3"], samp := ["s1", "s2", "s3"], rows := [[1, 2, 0], [3, 5, 2], [0, 3, 4]] }
example : holds exPair (.ok exLostMd) = false := by decide +kernel
/-- … and so are a wrong cell, a missing ID and an unrefused empty intersection -/
def exWrongCell : Table Int :=
  { obs := ["o1", "o2", "o3"], samp := ["s1", "s2", "s3"], rows := [[1, 2, 0], [3, 3, 2], [0, 3, 4]],
    omd := some [[], [("k", "x")], [("k", "y")]], smd := some [[], [("m", "1")], [("m", "2")]] }
example : holds exPair (.ok exWrongCell) = false := by decide +kernel
def exMissingId : Table Int :=
  { obs := ["o1", "o2"], samp := ["s1", "s2", "s3"], rows := [[1, 2, 0], [3, 5, 2]],
    omd := some [[], [("k", "x")]], smd := some [[], [("m", "1")], [("m", "2")]] }
example : holds exPair (.ok exMissingId) = false := by decide +kernel
def exUnrefused : Table Int :=
  { obs := ["o1", "o2", "o9"], samp := [], rows := [[], [], []] }
example : holds exEmpty (.ok exUnrefused) = false := by decide +kernel

end Biom.C09
