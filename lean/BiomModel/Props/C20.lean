/-
  C20 — property theorems, on three levels: programs run against a profile (`model_holds`, `errstate_restores`, …),
  the registry class itself (`Reg.model_holds`, `Reg.test_least_firing_decides`), and the refinement that ties the two
  (`Reg.check_refines_test`, `Reg.module_state_wf`).  Everything is for EVERY registry (any distinct kinds — none called
  `all` where the program level is concerned, `StateWF.noAll` — and any valid current reactions), EVERY program (any
  nesting depth, any exit path) — no bound anywhere.
-/
import BiomModel.Lemmas.C20

namespace Biom.C20

/-- A successful `seterr` call is characterised kind by kind; a refused one changes nothing. -/
theorem seterr_spec (s : State) (kw : Kw) (h : KwWF kw) :
    seterr s kw = if validKw s kw then some (expectedAfter s kw) else none := by
  split
  · next hv => exact seterr_valid h hv
  · next hv => exact seterr_refused (Bool.eq_false_iff.mpr hv)

/-- "unknown kinds or reactions are refused without changing the profile" -/
theorem seterr_refused_unchanged (p : Profile) (kw : Kw) (h : validKw p.state kw = false) :
    (exec (.seterr kw) p).1 = p ∧ (exec (.seterr kw) p).2.out = .keyError := by
  rw [exec, seterr_refused h]; exact ⟨rfl, rfl⟩

theorem seterrcall_refused_unchanged (p : Profile) (k : Kind) (cb : Nat)
    (h : (kinds p.state).contains k = false) :
    (exec (.seterrcall k cb) p).1 = p ∧ (exec (.seterrcall k cb) p).2.out = .keyError := by
  rw [exec, if_neg (Bool.eq_false_iff.mp h)]; exact ⟨rfl, rfl⟩

theorem exec_pre_post (prog : Prog) (p : Profile) :
    (exec prog p).2.pre = p.state ∧ (exec prog p).2.post = (exec prog p).1.state := by
  induction prog generalizing p with
  | seterr kw => dsimp only [exec]; cases seterr p.state kw <;> exact ⟨rfl, rfl⟩
  | seterrcall k cb => dsimp only [exec]; cases (kinds p.state).contains k <;> exact ⟨rfl, rfl⟩
  | check trig => exact ⟨rfl, rfl⟩
  | raise => exact ⟨rfl, rfl⟩
  | seq a b iha ihb =>
    rw [exec_seq]
    by_cases hn : (exec a p).2.out = .normal
    · rw [if_pos hn]; exact ⟨(iha p).1, (ihb _).2⟩
    · rw [if_neg hn]; exact iha p
  | errstate kw body _ => dsimp only [exec]; cases seterr p.state kw <;> exact ⟨rfl, rfl⟩

/-- No program changes the set of kinds or installs an invalid reaction. -/
theorem exec_wf (prog : Prog) (p : Profile) (hp : ProgWF prog) (hs : StateWF p.state) :
    StateWF (exec prog p).1.state ∧ kinds (exec prog p).1.state = kinds p.state := by
  induction prog generalizing p with
  | seterr kw =>
    cases hv : validKw p.state kw with
    | false => rw [exec, seterr_refused hv]; exact ⟨hs, rfl⟩
    | true =>
      rw [exec, seterr_valid hp hv]
      exact ⟨stateWF_expectedAfter _ _ hs hv, kinds_expectedAfter _ _⟩
  | seterrcall k cb => dsimp only [exec]; cases (kinds p.state).contains k <;> exact ⟨hs, rfl⟩
  | check trig => exact ⟨hs, rfl⟩
  | raise => exact ⟨hs, rfl⟩
  | seq a b iha ihb =>
    have ha := iha p hp.1 hs
    rw [exec_seq]
    by_cases hn : (exec a p).2.out = .normal
    · have hb := ihb (exec a p).1 hp.2 ha.1
      rw [if_pos hn]; exact ⟨hb.1, hb.2.trans ha.2⟩
    · rw [if_neg hn]; exact ha
  | errstate kw body ih =>
    cases hv : validKw p.state kw with
    | false => rw [exec, seterr_refused hv]; exact ⟨hs, rfl⟩
    | true =>
      have hb := ih { p with state := expectedAfter p.state kw } hp.2 (stateWF_expectedAfter _ _ hs hv)
      rw [exec_errstate_valid body p hp.1 hv hs (hb.2.trans (kinds_expectedAfter _ _))]
      exact ⟨hs, rfl⟩

/-- the hypothesis `hk` of `exec_errstate_valid` -/
theorem kinds_exec_body {kw : Kw} {body : Prog} (p : Profile) (hp : ProgWF body)
    (hs : StateWF p.state) (hv : validKw p.state kw = true) :
    kinds (exec body { p with state := expectedAfter p.state kw }).1.state = kinds p.state :=
  (exec_wf body _ hp (stateWF_expectedAfter _ _ hs hv)).2.trans (kinds_expectedAfter _ _)

/-- "the previous profile is restored on exit, whether the block completes normally or raises":
for every body (nested blocks, refused calls, raised table errors, exceptions of its own). -/
theorem errstate_restores (kw : Kw) (body : Prog) (p : Profile)
    (hp : ProgWF (.errstate kw body)) (hs : StateWF p.state) :
    (exec (.errstate kw body) p).1.state = p.state := by
  cases hv : validKw p.state kw with
  | false => rw [exec, seterr_refused hv]
  | true => rw [exec_errstate_valid body p hp.1 hv hs (kinds_exec_body p hp.2 hs hv)]

/-- "A scoped override is in force exactly within its block": the body starts from the previous
profile overridden by the keywords. -/
theorem errstate_in_force (kw : Kw) (body : Prog) (p : Profile) (hkw : KwWF kw)
    (hv : validKw p.state kw = true) :
    ∃ after, (exec (.errstate kw body) p).2 =
      .errstate p.state
        (some (expectedAfter p.state kw, (exec body { p with state := expectedAfter p.state kw }).2)) after := by
  rw [exec, seterr_valid hkw hv]
  exact ⟨_, rfl⟩

/-- "the configured reaction is what happens" for an item triggering exactly kind `k`. -/
theorem reaction_honoured (p : Profile) (k : Kind) (r : String) (hs : StateWF p.state)
    (hk : (k, r) ∈ p.state) :
    (exec (.check [k]) p).2 =
      .check p.state ((p.calls.lookup k).getD 0) (reactionEv k r ((p.calls.lookup k).getD 0)) := by
  have hl : p.state.lookup k = some r := lookup_of_mem_nodup p.state hs.nodup (k, r) hk
  rw [exec_check, react_of_first (firstTriggered_single_mem _ k (List.mem_map_of_mem hk)), hl]
  rfl

/-- An item on which no test fires passes silently whatever the profile. -/
theorem no_trigger_quiet (p : Profile) : (exec (.check []) p).2 = .check p.state 0 .quiet := by
  rw [exec_check, react_of_none (firstTriggered_nil _)]

/-- The whole property on the observation tree, for every program and registry. -/
theorem model_holds (prog : Prog) (p : Profile) (hp : ProgWF prog) (hs : StateWF p.state) :
    holds prog (exec prog p).2 = true := by
  induction prog generalizing p with
  | seterr kw =>
    cases hv : validKw p.state kw with
    | false => rw [exec, seterr_refused hv, holds, hv, state_beq_self]; rfl
    | true => rw [exec, seterr_valid hp hv, holds, hv, state_beq_self]; rfl
  | seterrcall k cb =>
    cases h : (kinds p.state).contains k with
    | false => rw [exec, if_neg (Bool.eq_false_iff.mp h), holds, h]; rfl
    | true => rw [exec, if_pos h, holds, h]; rfl
  | check trig =>
    cases trig with
    | nil => rw [no_trigger_quiet]; rfl
    | cons k t =>
      cases t with
      | cons _ _ => rfl
      | nil =>
        cases hl : p.state.lookup k with
        | none =>
          rw [exec_check, react_of_none (firstTriggered_single_not_mem _ _ (not_mem_of_lookup_none _ _ hl)), holds, hl]
          rfl
        | some r =>
          rw [reaction_honoured p k r hs (mem_of_lookup _ _ _ hl), holds, hl]
          exact beq_iff_eq.mpr rfl
  | raise => rfl
  | seq a b iha ihb =>
    rw [exec_seq]
    by_cases hn : (exec a p).2.out = .normal
    · rw [if_pos hn, holds, iha p hp.1 hs, hn, ihb _ hp.2 (exec_wf a p hp.1 hs).1, (exec_pre_post b _).1, (exec_pre_post a p).2,
        state_beq_self]
      rfl
    · rw [if_neg hn, holds, iha p hp.1 hs]
      exact bne_iff_ne.mpr hn
  | errstate kw body ih =>
    cases hv : validKw p.state kw with
    | false => rw [exec, seterr_refused hv, holds, hv, state_beq_self]; rfl
    | true =>
      rw [exec_errstate_valid body p hp.1 hv hs (kinds_exec_body p hp.2 hs hv), holds, hv, (exec_pre_post body _).1,
        ih _ hp.2 (stateWF_expectedAfter _ _ hs hv)]
      simp only [state_beq_self, Bool.and_self]

/-! Non-vacuity: a concrete registry and a nested program meet the hypotheses, and the block
really is entered, raises, and is restored. -/
def demoState : State := [("empty", "ignore"), ("obsdup", "raise"), ("sampdup", "raise")]
def demoProg : Prog :=
  .seq (.errstate [("empty", "raise")] (.seq (.errstate [("all", "warn")] (.check ["obsdup"])) (.check ["empty"])))
       (.check ["empty"])

example : StateWF demoState :=
  ⟨by decide +kernel, by decide +kernel, by decide +kernel⟩
example : ProgWF demoProg := by simp [demoProg, ProgWF, KwWF]

/-- the demo run, evaluated once for the two facts below -/
theorem demo_run : ((exec demoProg ⟨demoState, []⟩).1.state, (exec demoProg ⟨demoState, []⟩).2.out) =
    (demoState, Out.tableException) := by decide +kernel

example : (exec demoProg ⟨demoState, []⟩).1.state = demoState := (Prod.mk.inj demo_run).1
example : (exec demoProg ⟨demoState, []⟩).2.out = .tableException := (Prod.mk.inj demo_run).2

/-! ### the save/restore idiom of `seterrcall` -/

/-- registering a callback and then putting back the one that was registered before (what the first
`seterrcall` returned) leaves every kind with the callback it had: each later trigger reacts as if neither
call had happened. Callback 0 stands for "none registered" (quiet under 'call'). -/
theorem seterrcall_save_restore (calls : List (Kind × Nat)) (k : Kind) (cb : Nat) (k' : Kind) :
    ((setCall (setCall calls k cb) k ((calls.lookup k).getD 0)).lookup k').getD 0
      = (calls.lookup k').getD 0 := by
  by_cases h : k' = k
  · subst h; rw [setCall_lookup_self]; rfl
  · rw [setCall_lookup_other _ _ _ _ h, setCall_lookup_other _ _ _ _ h]

/-- … and therefore the reaction to any trigger is the same as before the two calls -/
theorem react_after_save_restore (p : Profile) (k : Kind) (cb : Nat) (trig : List Kind) :
    react { p with calls := setCall (setCall p.calls k cb) k ((p.calls.lookup k).getD 0) } trig = react p trig := by
  unfold react
  cases firstTriggered p.state trig with
  | none => rfl
  | some k' => simp only [seterrcall_save_restore]

end Biom.C20

/-! ### the registry itself (`ErrorProfile.register / unregister / state= / setcall / getcall / in / test`) -/

namespace Biom.C20.Reg
def RegWF (g : Registry) : Prop := (rkinds g).Nodup

/-! the Bool tests of `step` and `holdsStep`, read as propositions -/

theorem and_intro {a b : Bool} (ha : a = true) (hb : b = true) : (a && b) = true := by rw [ha, hb]; rfl

theorem not_contains_iff {l : List Kind} {k : Kind} : (!l.contains k) = true ↔ k ∉ l := by
  rw [Bool.not_eq_true', ← Bool.not_eq_true, List.contains_iff_mem]

theorem all_contains {l l' : Registry} (f : Entry → Entry) (h : ∀ x ∈ l, f x ∈ l') :
    l.all (fun x => l'.contains (f x)) = true :=
  List.all_eq_true.mpr fun x hx => List.contains_iff_mem.mpr (h x hx)

theorem sameEntries_refl (g : Registry) : sameEntries g g = true :=
  and_intro (beq_self_eq_true _) (all_contains id fun _ h => h)

theorem find_some {g : Registry} {k : Kind} {e : Entry} (h : find g k = some e) : e ∈ g ∧ e.kind = k :=
  ⟨List.mem_of_find?_eq_some h, eq_of_beq (List.find?_some (p := fun x : Entry => x.kind == k) h)⟩

theorem find_none {g : Registry} {k : Kind} : find g k = none ↔ k ∉ rkinds g := by
  simp only [find, rkinds, List.find?_eq_none, List.mem_map, not_exists, not_and, beq_iff_eq]

theorem exists_find {g : Registry} {k : Kind} (h : k ∈ rkinds g) : ∃ e, find g k = some e ∧ e.kind = k := by
  cases hf : find g k with
  | none => exact absurd h (find_none.mp hf)
  | some e => exact ⟨e, rfl, (find_some hf).2⟩

theorem mem_rkinds_of_find {g : Registry} {k : Kind} {e : Entry} (h : find g k = some e) : k ∈ rkinds g :=
  (find_some h).2 ▸ List.mem_map_of_mem (find_some h).1

theorem find_of_mem_nodup {g : Registry} (hw : RegWF g) {e : Entry} (he : e ∈ g) : find g e.kind = some e := by
  unfold find
  induction he with
  | head as => exact List.find?_cons_of_pos (p := fun x : Entry => x.kind == e.kind) (beq_iff_eq.mpr rfl)
  | tail x he' ih =>
    obtain ⟨hx, has⟩ := List.nodup_cons.mp hw
    have hne : ¬ (x.kind == e.kind) = true := fun h => hx (List.mem_map.mpr ⟨e, he', (eq_of_beq h).symm⟩)
    rw [List.find?_cons_of_neg (p := fun x : Entry => x.kind == e.kind) hne]; exact ih has

theorem rkinds_map (g : Registry) {f : Entry → Entry} (hf : ∀ e, (f e).kind = e.kind) :
    rkinds (g.map f) = rkinds g := by
  rw [rkinds, List.map_map]; exact List.map_congr_left fun e _ => hf e

theorem find_map (g : Registry) {f : Entry → Entry} (hf : ∀ e, (f e).kind = e.kind) (k : Kind) :
    find (g.map f) k = (find g k).map f := by
  rw [find, List.find?_map]
  congr 2
  funext e; exact congrArg (· == k) (hf e)

theorem kind_setCb (k : Kind) (cb : Nat) (x : Entry) :
    (if x.kind == k then { x with cb := cb } else x).kind = x.kind := by
  split <;> rfl

/-- the loop of `test` over any registered candidates = "first firing candidate decides" -/
theorem testLoop_eq_find (g : Registry) (trig ks : List Kind) (hreg : ∀ k ∈ ks, k ∈ rkinds g) :
    testLoop g trig ks = .ev (match ks.find? (fun k => trig.contains k) with
      | none => .quiet
      | some k => reactionEv k (((find g k).map (·.reaction)).getD "ignore") (((find g k).map (·.cb)).getD 0)) := by
  induction ks with
  | nil => rfl
  | cons c cs ih =>
    obtain ⟨e, hf, -⟩ := exists_find (hreg c List.mem_cons_self)
    rw [testLoop, hf, List.find?_cons]
    cases trig.contains c with
    | true => simp only [if_true, hf, Option.map_some, Option.getD_some]
    | false => exact ih fun k hk => hreg k (List.mem_cons_of_mem _ hk)

/-- the loop of `test` answers with the configured reaction of the first firing candidate -/
theorem testLoop_spec (g : Registry) (trig : List Kind) (cands : List Kind)
    (hreg : ∀ k ∈ cands, k ∈ rkinds g) :
    (cands.filter (fun k => trig.contains k) = [] ∧ testLoop g trig cands = .ev .quiet) ∨
    (∃ k e rest, cands.filter (fun k => trig.contains k) = k :: rest ∧ find g k = some e ∧
       testLoop g trig cands = .ev (reactionEv k e.reaction e.cb)) := by
  rw [testLoop_eq_find g trig cands hreg, ← List.head?_filter]
  cases hfl : cands.filter (fun k => trig.contains k) with
  | nil => exact Or.inl ⟨rfl, rfl⟩
  | cons k rest =>
    have hk : k ∈ cands := (List.mem_filter.mp (hfl ▸ List.mem_cons_self)).1
    obtain ⟨e, hf, -⟩ := exists_find (hreg k hk)
    exact Or.inr ⟨k, e, rest, rfl, hf, by simp only [List.head?_cons, hf, Option.map_some, Option.getD_some]⟩

theorem leStr_trans (a b c : String) : leStr a b = true → leStr b c = true → leStr a c = true := by
  simp only [leStr, decide_eq_true_eq]; exact String.le_trans
theorem leStr_total (a b : String) : (leStr a b || leStr b a) = true := by
  simp only [leStr, Bool.or_eq_true, decide_eq_true_eq]; exact String.le_total a b

theorem head_least (l : List Kind) (p : Kind → Bool) (k : Kind) (rest : List Kind)
    (h : (l.mergeSort leStr).filter p = k :: rest) :
    k ∈ l ∧ p k = true ∧ ∀ k' ∈ l, p k' = true → leStr k k' = true := by
  have hsub : List.Pairwise (fun a b => leStr a b = true) (k :: rest) :=
    h ▸ (List.pairwise_mergeSort leStr_trans leStr_total l).sublist List.filter_sublist
  have hmem : ∀ k', k' ∈ k :: rest ↔ k' ∈ l ∧ p k' = true := fun k' => by
    rw [← h, List.mem_filter, List.mem_mergeSort]
  obtain ⟨hk, hpk⟩ := (hmem k).mp List.mem_cons_self
  refine ⟨hk, hpk, fun k' hk' hp => ?_⟩
  rcases List.mem_cons.mp ((hmem k').mpr ⟨hk', hp⟩) with rfl | hr
  · exact decide_eq_true (String.le_refl _)
  · exact (List.pairwise_cons.mp hsub).1 k' hr

/-- the test `register` refuses on -/
theorem refuse_iff {g : Registry} {k r : String} :
    ((rkinds g).contains k || !validReactions.contains r) = true ↔ k ∈ rkinds g ∨ r ∉ validReactions := by
  rw [Bool.or_eq_true, List.contains_iff_mem, not_contains_iff]

/-- "unknown … reactions are refused without changing the profile", and so is a kind registered twice -/
theorem register_refused_unchanged (g : Registry) (k r : String) (cb : Nat)
    (h : k ∈ rkinds g ∨ r ∉ validReactions) : step g (.register k r cb) = (g, .keyError) := by
  dsimp only [step]
  rcases h with h | h
  · rw [if_pos (List.contains_iff_mem.mpr h)]
  · rw [if_pos (not_contains_iff.mpr h)]; exact ite_self _

theorem step_register_ok {g : Registry} {k r : String} (cb : Nat) (hk : k ∉ rkinds g) (hr : r ∈ validReactions) :
    step g (.register k r cb) = (g ++ [⟨k, r, cb⟩], .ok) := by
  dsimp only [step]; rw [if_neg (mt List.contains_iff_mem.mp hk), List.contains_iff_mem.mpr hr]; rfl

/-- A call leaves the registry alone or changes it in one of four ways: a property of registries that survives
those survives every call. -/
theorem step_preserves (P : Registry → Prop) (g : Registry) (hg : P g)
    (hreg : ∀ k r cb, k ∉ rkinds g → r ∈ validReactions → P (g ++ [⟨k, r, cb⟩]))
    (hunreg : ∀ k, P (g.filter (fun x => x.kind != k)))
    (hstate : ∀ kw, validKwR g kw = true → P (g.map (fun e => { e with reaction := newReaction kw e })))
    (hcall : ∀ k cb, P (g.map (fun x => if x.kind == k then { x with cb := cb } else x)))
    (op : Op) : P (step g op).1 := by
  cases op with
  | register k r cb =>
    by_cases h : k ∈ rkinds g ∨ r ∉ validReactions
    · rw [register_refused_unchanged g k r cb h]; exact hg
    · obtain ⟨hk, hr⟩ := not_or.mp h
      have hr : r ∈ validReactions := Classical.not_not.mp hr
      rw [step_register_ok cb hk hr]; exact hreg k r cb hk hr
  | unregister k =>
    dsimp only [step]
    cases find g k with
    | none => exact hg
    | some e => exact hunreg k
  | setState kw =>
    dsimp only [step]
    by_cases hv : validKwR g kw = true
    · rw [if_pos hv]; exact hstate kw hv
    · rw [if_neg hv]; exact hg
  | setcall k cb =>
    dsimp only [step]
    cases find g k with
    | none => exact hg
    | some e => exact hcall k cb
  | getcall k => dsimp only [step]; cases find g k <;> exact hg
  | contains k => exact hg
  | test trig args => exact hg

theorem step_wf (g : Registry) (op : Op) (hw : RegWF g) : RegWF (step g op).1 := by
  refine step_preserves RegWF g hw ?_ ?_ ?_ ?_ op
  · intro k r cb hk _
    rw [RegWF, rkinds, List.map_append, List.nodup_append]
    exact ⟨hw, List.nodup_cons.mpr ⟨List.not_mem_nil, List.nodup_nil⟩,
      fun a ha b hb e => hk (by cases e; cases (List.mem_singleton.mp hb : a = k); exact ha)⟩
  · intro k; exact List.Nodup.sublist (List.Sublist.map _ List.filter_sublist) hw
  · intro kw _; rw [RegWF, rkinds_map g (f := fun e => { e with reaction := newReaction kw e }) fun _ => rfl]; exact hw
  · intro k cb; rw [RegWF, rkinds_map g (kind_setCb k cb)]; exact hw

theorem run_wf (g : Registry) (ops : List Op) (hw : RegWF g) : RegWF (run g ops).1 := by
  induction ops generalizing g with
  | nil => exact hw
  | cons op ops ih => exact ih _ (step_wf g op hw)

/-- every registry reachable from a fresh `ErrorProfile()` has distinct kinds -/
theorem reachable_wf (ops : List Op) : RegWF (run [] ops).1 := run_wf [] ops List.nodup_nil

theorem filter_ne_self (g : Registry) (k : Kind) (h : k ∉ rkinds g) : g.filter (fun x => x.kind != k) = g :=
  List.filter_eq_self.mpr fun _ hy => bne_iff_ne.mpr fun hyk => h (hyk ▸ List.mem_map_of_mem hy)

theorem length_filter_ne {k : Kind} {g : Registry} (hw : RegWF g) (hk : k ∈ rkinds g) :
    (g.filter (fun x => x.kind != k)).length + 1 = g.length := by
  induction g with
  | nil => cases hk
  | cons x xs ih =>
    obtain ⟨hx, hxs⟩ := List.nodup_cons.mp hw
    by_cases hxk : x.kind = k
    · rw [List.filter_cons_of_neg (by simpa using hxk), filter_ne_self xs k (hxk ▸ hx)]; rfl
    · rw [List.filter_cons_of_pos (by simpa using hxk), List.length_cons, List.length_cons,
        ih hxs ((List.mem_cons.mp hk).resolve_left (Ne.symm hxk))]

/-- The registry clauses hold of every call on every registry with distinct kinds. -/
theorem model_holds (g : Registry) (op : Op) (hw : RegWF g) :
    holdsStep g op (step g op).2 (step g op).1 = true := by
  cases op with
  | register k r cb =>
    by_cases h : k ∈ rkinds g ∨ r ∉ validReactions
    · rw [register_refused_unchanged g k r cb h]
      -- the clause opens with `register`'s own refusal test
      show (if _ then _ else _) = true
      rw [if_pos (refuse_iff.mpr h)]; exact and_intro rfl (sameEntries_refl g)
    · obtain ⟨hk, hr⟩ := not_or.mp h
      have hr : r ∈ validReactions := Classical.not_not.mp hr
      rw [step_register_ok cb hk hr]
      show (if _ then _ else _) = true
      rw [if_neg (mt refuse_iff.mp h)]
      refine and_intro (and_intro (and_intro rfl ?_) ?_) ?_
      · exact beq_iff_eq.mpr List.length_append
      · exact List.contains_iff_mem.mpr (List.mem_append_right _ (List.mem_singleton_self _))
      · exact all_contains id fun x hx => List.mem_append_left _ hx
  | unregister k =>
    dsimp only [step, holdsStep]
    cases hf : find g k with
    | none => exact and_intro rfl (sameEntries_refl g)
    | some e =>
      dsimp only
      refine and_intro (and_intro (and_intro (beq_iff_eq.mpr rfl) ?_) ?_) ?_
      · rw [not_contains_iff, rkinds, List.mem_map]
        exact fun ⟨x, hx, hxk⟩ => bne_iff_ne.mp (List.mem_filter.mp hx).2 hxk
      · exact beq_iff_eq.mpr (length_filter_ne hw (mem_rkinds_of_find hf))
      · refine List.all_eq_true.mpr fun x hx => Bool.or_eq_true_iff.mpr ?_
        by_cases hxk : x.kind = k
        · exact Or.inl (beq_iff_eq.mpr hxk)
        · exact Or.inr (List.contains_iff_mem.mpr (List.mem_filter.mpr ⟨hx, bne_iff_ne.mpr hxk⟩))
  | setState kw =>
    dsimp only [step, holdsStep]
    by_cases hv : validKwR g kw = true
    · rw [if_pos hv, if_pos hv]
      exact and_intro (and_intro rfl (beq_iff_eq.mpr (List.length_map _))) (all_contains _ fun e he => List.mem_map_of_mem he)
    · rw [if_neg hv, if_neg hv]; exact and_intro rfl (sameEntries_refl g)
  | setcall k cb =>
    dsimp only [step, holdsStep]
    cases find g k with
    | none => exact and_intro rfl (sameEntries_refl g)
    | some e =>
      dsimp only
      exact and_intro (and_intro (beq_iff_eq.mpr rfl) (beq_iff_eq.mpr (List.length_map _)))
        (all_contains _ fun x hx => List.mem_map_of_mem hx)
  | getcall k =>
    dsimp only [step, holdsStep]
    cases find g k with
    | none => exact and_intro (sameEntries_refl g) rfl
    | some e => exact and_intro (sameEntries_refl g) (beq_iff_eq.mpr rfl)
  | contains k => exact and_intro (sameEntries_refl g) (beq_iff_eq.mpr rfl)
  | test trig args =>
    dsimp only [step, holdsStep, candidates]
    refine and_intro (sameEntries_refl g) ?_
    generalize (if args.isEmpty = true then rkinds g else args) = cands
    by_cases hany : (cands.any fun k => !(rkinds g).contains k) = true
    · rw [if_pos hany]
    · rw [if_neg hany]
      have hreg : ∀ k ∈ cands.mergeSort leStr, k ∈ rkinds g := fun k hk =>
        Classical.not_not.mp fun hn => hany (List.any_eq_true.mpr ⟨k, List.mem_mergeSort.mp hk, not_contains_iff.mpr hn⟩)
      -- the clause speaks of the firing candidates in the order given, the loop meets them sorted: same kinds
      have hperm := (List.mergeSort_perm cands leStr).filter (fun k => trig.contains k)
      rw [← hperm.isEmpty_eq]
      rcases testLoop_spec g trig (cands.mergeSort leStr) hreg with ⟨h1, h2⟩ | ⟨k, e, rest, h1, h2, h3⟩
      · rw [h2, h1]; rfl
      · rw [h3, h1]
        show List.any _ _ = true
        rw [← hperm.any_eq, h1, List.any_cons, h2]
        exact Bool.or_eq_true_iff.mpr (Or.inl (beq_iff_eq.mpr rfl))

theorem find_append_new (g : Registry) (k r : String) (cb : Nat) (h : k ∉ rkinds g) :
    find (g ++ [⟨k, r, cb⟩]) k = some ⟨k, r, cb⟩ := by
  rw [find, List.find?_append, ← find, find_none.mpr h]
  exact List.find?_cons_of_pos (p := fun e : Entry => e.kind == k) (l := []) (beq_self_eq_true k)

/-- registering a kind and unregistering it again hands back exactly what was registered and leaves the
registry as it was -/
theorem register_then_unregister (g : Registry) (k r : String) (cb : Nat)
    (hk : k ∉ rkinds g) (hr : r ∈ validReactions) :
    step (step g (.register k r cb)).1 (.unregister k) = (g, .removed r cb) := by
  rw [step_register_ok cb hk hr]
  dsimp only [step]
  -- of `g ++ [new]` the filter keeps `g`, which has no `k`, and drops the new entry
  rw [find_append_new g k r cb hk, List.filter_append, filter_ne_self g k hk,
    List.filter_cons_of_neg (p := fun x : Entry => x.kind != k) fun h => bne_iff_ne.mp h rfl]
  exact congrArg (·, _) (List.append_nil g)

/-- when several kinds fire on an item (and every requested kind is registered) the reaction is that of the
firing kind that sorts first — whatever it is configured to, silent reactions included -/
theorem test_least_firing_decides (g : Registry) (trig args : List Kind)
    (hargs : ∀ k ∈ (if args.isEmpty then rkinds g else args), k ∈ rkinds g)
    (k : Kind) (hk : k ∈ (if args.isEmpty then rkinds g else args)) (hf : trig.contains k = true)
    (hleast : ∀ k' ∈ (if args.isEmpty then rkinds g else args), trig.contains k' = true → k' = k ∨ ¬ leStr k' k = true) :
    ∃ e, find g k = some e ∧ (step g (.test trig args)).2 = .ev (reactionEv k e.reaction e.cb) := by
  show ∃ e, find g k = some e ∧ testLoop g trig ((if args.isEmpty then rkinds g else args).mergeSort leStr) = _
  generalize (if args.isEmpty = true then rkinds g else args) = cands at *
  have hreg : ∀ k ∈ cands.mergeSort leStr, k ∈ rkinds g := fun k hk => hargs k (List.mem_mergeSort.mp hk)
  rcases testLoop_spec g trig (cands.mergeSort leStr) hreg with ⟨h1, _⟩ | ⟨k0, e, rest, h1, h2, h3⟩
  · exact absurd hf (List.filter_eq_nil_iff.mp h1 k (List.mem_mergeSort.mpr hk))
  · obtain ⟨hkm, hkp, hl⟩ := head_least _ _ k0 rest h1
    have : k0 = k := (hleast k0 hkm hkp).resolve_right (not_not_intro (hl k hk hf))
    exact this ▸ ⟨e, h2, h3⟩

/-! non-vacuity: a fresh profile, three kinds registered out of alphabetical order, one refused, a state update,
an item on which two kinds fire: the one that sorts first decides -/
def demoOps : List Op :=
  [.register "sampdup" "raise" 0, .register "empty" "ignore" 0, .register "obsdup" "raise" 3,
   .register "empty" "warn" 0, .setState [("obsdup", "call")], .getcall "obsdup", .unregister "obsdup",
   .contains "obsdup"]

example : (run [] demoOps).2 =
    [.ok, .ok, .ok, .keyError, .ok, .cb 3, .removed "call" 3, .bool false] := by decide +kernel
example : RegWF (run [] demoOps).1 := reachable_wf demoOps
/-- two kinds fire; visited in sorted order, "obsdup" decides although "sampdup" was registered first -/
example : testLoop [⟨"sampdup", "raise", 0⟩, ⟨"empty", "ignore", 0⟩, ⟨"obsdup", "call", 3⟩] ["sampdup", "obsdup"]
    ["empty", "obsdup", "sampdup"] = .ev (.called "obsdup" 3) := by decide +kernel

/-! ### the program level refines the registry level; the registry err.py builds at import time -/

theorem kinds_toState (g : Registry) : kinds (toState g) = (rkinds g).mergeSort leStr := by
  rw [kinds, toState, List.map_map]; exact List.map_id _

theorem contains_mergeSort (l : List Kind) (k : Kind) : (l.mergeSort leStr).contains k = l.contains k :=
  Bool.eq_iff_iff.mpr (by rw [List.contains_iff_mem, List.contains_iff_mem, List.mem_mergeSort])

theorem lookup_callsOf (g : Registry) (k : Kind) : (callsOf g).lookup k = (find g k).map (·.cb) := by
  unfold callsOf find
  induction g with
  | nil => rfl
  | cons x xs ih =>
    rw [List.map_cons, List.lookup_cons, List.find?_cons, BEq.comm (a := x.kind)]
    cases k == x.kind with
    | true => rfl
    | false => exact ih

/-- **The program-level model stands on the registry-level one**: `errcheck(item)` as the program model describes it
(`react` over the sorted reaction table and the callback table) is exactly what `ErrorProfile.test(item)` does on the
registry those tables come from. -/
theorem check_refines_test (g : Registry) (trig : List Kind) :
    step g (.test trig []) = (g, .ev (react ⟨toState g, callsOf g⟩ trig).2) := by
  have hreg : ∀ k ∈ (rkinds g).mergeSort leStr, k ∈ rkinds g := fun k hk => List.mem_mergeSort.mp hk
  have hft : firstTriggered (toState g) trig = ((rkinds g).mergeSort leStr).find? (fun k => trig.contains k) :=
    congrArg (List.find? _) (kinds_toState g)
  show (g, testLoop g trig ((rkinds g).mergeSort leStr)) = _
  rw [testLoop_eq_find g trig _ hreg]
  cases hfd : ((rkinds g).mergeSort leStr).find? (fun k => trig.contains k) with
  | none => rw [react_of_none (p := ⟨toState g, callsOf g⟩) (hft.trans hfd)]
  | some k =>
    rw [react_of_first (p := ⟨toState g, callsOf g⟩) (hft.trans hfd), lookup_callsOf,
      toState, lookup_map_self _ _ k (List.mem_of_find?_eq_some hfd)]
    rfl

theorem validKw_toState (g : Registry) (kw : Kw) : validKw (toState g) kw = validKwR g kw := by
  unfold validKw validKwR
  simp only [kinds_toState, contains_mergeSort]

theorem toState_setState (g : Registry) (kw : Kw) :
    toState (g.map (fun e => { e with reaction := newReaction kw e })) = expectedAfter (toState g) kw := by
  rw [expectedAfter_eq, toState, toState, rkinds_map g (f := fun e => { e with reaction := newReaction kw e }) fun _ => rfl,
    List.map_map]
  apply List.map_congr_left
  intro k hk
  obtain ⟨e, hf, hek⟩ := exists_find (List.mem_mergeSort.mp hk)
  rw [find_map g (f := fun e => { e with reaction := newReaction kw e }) (fun _ => rfl), Function.comp, hf, ← hek]
  rfl

/-- `seterr(**kw)` as the program model describes it is the registry's `state = kw`: refused together, and an accepted
call leaves the reaction table of the updated registry -/
theorem setState_refines_seterr (g : Registry) (kw : Kw) (hkw : KwWF kw) :
    seterr (toState g) kw =
      if (step g (.setState kw)).2 = .ok then some (toState (step g (.setState kw)).1) else none := by
  rw [step]
  cases hv : validKwR g kw with
  | false => exact seterr_refused ((validKw_toState g kw).trans hv)
  | true => rw [seterr_valid hkw ((validKw_toState g kw).trans hv), ← toState_setState]; rfl

/-- an invariant of the registry: `register` and the `state` setter refuse a reaction outside `validReactions` -/
def RegValid (g : Registry) : Prop := ∀ e ∈ g, e.reaction ∈ validReactions

theorem newReaction_valid (g : Registry) (kw : Kw) (hv : validKwR g kw = true) (e : Entry)
    (he : e.reaction ∈ validReactions) : newReaction kw e ∈ validReactions :=
  reactionAfter_valid (fun kr h => (validKw_iff.mp ((validKw_toState g kw).trans hv) kr h).1) e.kind he

theorem step_valid (g : Registry) (op : Op) (hv : RegValid g) : RegValid (step g op).1 := by
  refine step_preserves RegValid g hv ?_ ?_ ?_ ?_ op
  · intro k r cb _ hr e he
    rcases List.mem_append.mp he with h | h
    · exact hv e h
    · cases List.mem_singleton.mp h; exact hr
  · intro k e he; exact hv e (List.mem_filter.mp he).1
  · intro kw hvk e he
    obtain ⟨e0, he0, rfl⟩ := List.mem_map.mp he
    exact newReaction_valid g kw hvk e0 (hv e0 he0)
  · intro k cb e he
    obtain ⟨e0, he0, rfl⟩ := List.mem_map.mp he
    split <;> exact hv e0 he0

theorem run_valid (g : Registry) (ops : List Op) (hv : RegValid g) : RegValid (run g ops).1 := by
  induction ops generalizing g with
  | nil => exact hv
  | cons op ops ih => exact ih _ (step_valid g op hv)

/-- the reaction table of a registry meets the hypothesis `StateWF` the program-level theorems are stated under -/
theorem toState_wf (g : Registry) (hw : RegWF g) (hv : RegValid g) (hall : "all" ∉ rkinds g) : StateWF (toState g) := by
  refine ⟨?_, ?_, ?_⟩
  · rw [kinds_toState]
    exact (List.mergeSort_perm (rkinds g) leStr).nodup_iff.mpr hw
  · rw [kinds_toState, List.mem_mergeSort]; exact hall
  · intro kr hkr
    obtain ⟨k, hk, rfl⟩ := List.mem_map.mp hkr
    obtain ⟨e, hf, -⟩ := exists_find (List.mem_mergeSort.mp hk)
    rw [hf]; exact hv e (find_some hf).1

/-- what the seven `register` calls of err.py answer and leave behind, evaluated once -/
theorem module_run : run [] moduleOps =
    ([⟨"empty", "ignore", 0⟩, ⟨"obssize", "raise", 0⟩, ⟨"sampsize", "raise", 0⟩, ⟨"obsdup", "raise", 0⟩,
      ⟨"sampdup", "raise", 0⟩, ⟨"obsmdsize", "raise", 0⟩, ⟨"sampmdsize", "raise", 0⟩],
     [.ok, .ok, .ok, .ok, .ok, .ok, .ok]) := by decide +kernel

/-- the process-wide profile as err.py builds it satisfies `StateWF`: every program-level theorem (`model_holds`,
`errstate_restores`, `reaction_honoured`, …) applies to it and — by `exec_wf` — to every profile a program reaches from it -/
theorem module_state_wf : StateWF (toState moduleRegistry) := by
  rw [moduleRegistry]
  refine toState_wf _ (reachable_wf moduleOps) (run_valid [] moduleOps fun _ he => nomatch he) ?_
  rw [module_run]; simp [rkinds]

example : (run [] moduleOps).2 = [.ok, .ok, .ok, .ok, .ok, .ok, .ok] := congrArg Prod.snd module_run

/-- program-level `seterrcall` is the registry's `setcall`: refused together (unknown kind), and afterwards every kind
has the same callback in both -/
theorem setcall_refines_seterrcall (g : Registry) (k : Kind) (cb : Nat) (k' : Kind) :
    (if (kinds (toState g)).contains k then
        ((setCall (callsOf g) k cb).lookup k').getD 0
      else ((callsOf g).lookup k').getD 0)
      = ((callsOf (step g (.setcall k cb)).1).lookup k').getD 0
    ∧ ((step g (.setcall k cb)).2 = .keyError ↔ (kinds (toState g)).contains k = false) := by
  rw [kinds_toState, contains_mergeSort]
  dsimp only [step]
  cases hf : find g k with
  | none =>
    have hk : (rkinds g).contains k = false := Bool.eq_false_iff.mpr (mt List.contains_iff_mem.mp (find_none.mp hf))
    rw [hk]; exact ⟨rfl, iff_of_true rfl rfl⟩
  | some e =>
    have hk : (rkinds g).contains k = true := List.contains_iff_mem.mpr (mem_rkinds_of_find hf)
    rw [hk, if_pos rfl]
    refine ⟨?_, iff_of_false nofun nofun⟩
    rw [lookup_callsOf, find_map g (kind_setCb k cb)]
    by_cases hkk : k' = k
    · subst hkk
      rw [setCall_lookup_self, hf]
      show cb = (if e.kind == k' then ({ e with cb := cb } : Entry) else e).cb
      rw [if_pos (beq_iff_eq.mpr (find_some hf).2)]
    · rw [setCall_lookup_other _ _ _ _ hkk, lookup_callsOf]
      cases hf' : find g k' with
      | none => rfl
      | some e' =>
        show e'.cb = (if e'.kind == k then ({ e' with cb := cb } : Entry) else e').cb
        rw [if_neg fun h => hkk ((find_some hf').2 ▸ eq_of_beq h)]
end Biom.C20.Reg
