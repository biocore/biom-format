/-
  C13 — property theorems.  Kernel level: for EVERY user function `f` (all of `VFun α`).  Table level:
  for every `f` that returns as many values as it gets (`LenPres`; any other makes numpy's assignment
  fail or broadcast, `length_mismatch_witness`), every table, both axes, in place or not, and every
  matrix the kernel may be handed for it (`Pre`: any well-formed compressed layout with the table's
  dense content, entries in any order, that stores no zero — the constructor and `subsample` eliminate
  them; `stored_zero_witness` shows this hypothesis cannot be dropped below the API).
-/
import BiomModel.Lemmas.C13
import Mathlib.Tactic.Ring
import Mathlib.Algebra.Order.Field.Rat

namespace Biom.C13
variable {α : Type}

/-! ### kernel level: what the function is applied to, and where its values land -/

/-- `transform_args`: the kernel calls the function once per major vector, in order, on exactly the
stored values of that vector in storage order, with the vector's ID and metadata entry. -/
theorem transform_args (f : VFun α) (ids : List Id) (mds : Option (List Md)) (cs cs' : CS α)
    (log : List (Call α)) (hwf : cs.WF) (hids : cs.nMajor ≤ ids.length)
    (hmd : ∀ m, mds = some m → cs.nMajor ≤ m.length)
    (h : transformKernel f ids mds cs = .ok (cs', log)) :
    log = (List.range cs.nMajor).map (fun j =>
      ⟨ids.getD j "", mdIdx mds j, valSeg cs j, f (valSeg cs j) (ids.getD j "") (mdIdx mds j)⟩) := by
  obtain ⟨_, _, _, hlog, _⟩ := transformKernel_spec hwf hids hmd h
  exact hlog

section generic
variable [Zero α] [DecidableEq α]

/-- under `NoStoredZeros` the values handed over are exactly the non-zero values of the vector -/
theorem transform_args_nonzero (cs : CS α) (hwf : cs.WF) (hnz : cs.NoStoredZeros) (j : Nat) (hj : j < cs.nMajor) :
    (valSeg cs j).Perm (nz (cs.toDense.getD j [])) := by
  have : cs.toDense.getD j [] = dv cs.nMinor (idxSeg cs j) (valSeg cs j) := by
    rw [toDense_eq, List.getD_eq_getElem?_getD, List.getElem?_map, List.getElem?_range hj]; rfl
  exact this ▸ seg_args hwf hnz hj

omit [Zero α] [DecidableEq α] in
/-- `transform_writes_back`: shape, row pointer and minor indices are untouched, and the value slice
of vector `j` holds numpy's assignment of what the function returned for it — every returned
value sits at the minor index its argument came from. -/
theorem transform_writes_back (f : VFun α) (ids : List Id) (mds : Option (List Md)) (cs cs' : CS α)
    (log : List (Call α)) (hwf : cs.WF) (hids : cs.nMajor ≤ ids.length)
    (hmd : ∀ m, mds = some m → cs.nMajor ≤ m.length)
    (h : transformKernel f ids mds cs = .ok (cs', log)) :
    cs'.nMajor = cs.nMajor ∧ cs'.nMinor = cs.nMinor ∧ cs'.indptr = cs.indptr ∧ cs'.indices = cs.indices ∧
    ∀ j, j < cs.nMajor →
      (cs'.slice j).map (·.1) = (cs.slice j).map (·.1) ∧
      assign (valSeg cs j) (f (valSeg cs j) (ids.getD j "") (mdIdx mds j)) = .ok ((cs'.slice j).map (·.2)) := by
  obtain ⟨d, rfl, _, _, hw⟩ := transformKernel_spec hwf hids hmd h
  refine ⟨rfl, rfl, rfl, rfl, fun j hj => ?_⟩
  have hl : (segOf cs.indptr d j).length = (idxSeg cs j).length :=
    (assign_length (hw j hj)).trans (valSeg_length cs hwf j hj)
  rw [slice_fst { cs with data := d } j hl, slice_fst cs j (valSeg_length cs hwf j hj),
    slice_snd { cs with data := d } j hl]
  exact ⟨rfl, hw j hj⟩

omit [Zero α] [DecidableEq α] in
/-- a function that returns as many values as it gets never makes the kernel fail -/
theorem transform_total (f : VFun α) (ids : List Id) (mds : Option (List Md)) (cs : CS α) (hwf : cs.WF)
    (hids : cs.nMajor ≤ ids.length) (hmd : ∀ m, mds = some m → cs.nMajor ≤ m.length) (hf : LenPres f) :
    ∃ cs' log, transformKernel f ids mds cs = .ok (cs', log) :=
  transformKernel_total hwf hids hmd (fun _ _ => ⟨_, assign_lenPres hf _ _ _⟩)

/-- cells without a stored entry are zero after kernel + `eliminate_zeros`, whatever `f` does
(no hypothesis on stored zeros) -/
theorem transform_support_unstored (f : VFun α) (ids : List Id) (mds : Option (List Md)) (cs cs' : CS α)
    (log : List (Call α)) (hwf : cs.WF) (hids : cs.nMajor ≤ ids.length)
    (hmd : ∀ m, mds = some m → cs.nMajor ≤ m.length)
    (h : transformKernel f ids mds cs = .ok (cs', log)) (j k : Nat) (hj : j < cs.nMajor)
    (hk : k ∉ (cs.slice j).map (·.1)) :
    CS.entryAt ((eliminateZeros cs').slice j) k = 0 := by
  obtain ⟨hM, _, _, _, hsl⟩ := transform_writes_back f ids mds cs cs' log hwf hids hmd h
  rw [slice_eliminateZeros cs' (hM.symm ▸ hj)]
  refine entryAt_of_not_mem _ k fun hmem => hk ?_
  rw [← (hsl j hj).1]
  obtain ⟨e, he, rfl⟩ := List.mem_map.mp hmem
  exact List.mem_map_of_mem (List.mem_filter.mp he).1

end generic

theorem all_zipIdx_range_map {β : Type} (g : Nat → β) (p : β × Nat → Bool) (n : Nat)
    (h : ∀ i, i < n → p (g i, i) = true) : ((List.range n).map g).zipIdx.all p = true := by
  rw [List.all_eq_true]
  intro ⟨c, i⟩ hci
  obtain ⟨_, hi, hc⟩ := List.mem_zipIdx hci
  rw [Nat.zero_add, List.length_map, List.length_range] at hi
  simp only [Nat.sub_zero, List.getElem_map, List.getElem_range] at hc
  exact hc ▸ h i hi

/-- the kernel-level predicate holds of the model, for every function and every well-formed
matrix (stored zeros and any entry order allowed) -/
theorem kernel_holds [Zero α] [DecidableEq α] (f : VFun α) (ids : List Id) (mds : Option (List Md))
    (cs cs' : CS α) (log : List (Call α)) (hwf : cs.WF) (hids : cs.nMajor ≤ ids.length)
    (hmd : ∀ m, mds = some m → cs.nMajor ≤ m.length)
    (h : transformKernel f ids mds cs = .ok (cs', log)) :
    holdsK ids mds cs ⟨log, cs'.data, eliminateZeros cs'⟩ = true := by
  obtain ⟨d, rfl, hlen, rfl, hw⟩ := transformKernel_spec hwf hids hmd h
  have hwf' := wf_setData hwf hlen
  unfold holdsK
  simp only [Bool.and_eq_true, beq_iff_eq, decide_eq_true_eq]
  refine ⟨⟨⟨⟨⟨⟨⟨⟨?_, ?_⟩, ?_⟩, ?_⟩, hlen⟩, ?_⟩, eliminateZeros_toDense _ hwf'.distinct⟩,
    storedZeros_eliminateZeros _⟩, (CS.wfb_iff _).mpr (eliminateZeros_wf _ hwf')⟩
  · rw [List.map_map]
    exact map_getD_range_take ids "" cs.nMajor hids
  · rw [List.map_map]; rfl
  · rw [List.map_map]; rfl
  · rw [List.length_map, List.length_range]
  · refine all_zipIdx_range_map _ _ _ fun i hi => ?_
    have hw' : assign (callAt f cs.indptr ids mds cs.data i).args (callAt f cs.indptr ids mds cs.data i).ret =
        .ok (segOf cs.indptr d i) := hw i hi
    rw [hw']
    exact decide_eq_true rfl

/-- the matrix installed by `transform` is again within the contract (well-formed, no stored
zero, same shape): the theorems apply to any sequence of transforms -/
theorem transform_closure [Zero α] [DecidableEq α] (f : VFun α) (ids : List Id) (mds : Option (List Md))
    (cs cs' : CS α) (log : List (Call α)) (hwf : cs.WF) (hids : cs.nMajor ≤ ids.length)
    (hmd : ∀ m, mds = some m → cs.nMajor ≤ m.length)
    (h : transformKernel f ids mds cs = .ok (cs', log)) :
    (eliminateZeros cs').wfb = true ∧ (eliminateZeros cs').NoStoredZeros ∧
    (eliminateZeros cs').nMajor = cs.nMajor ∧ (eliminateZeros cs').nMinor = cs.nMinor := by
  obtain ⟨d, rfl, hlen, _, _⟩ := transformKernel_spec hwf hids hmd h
  exact ⟨(CS.wfb_iff _).mpr (eliminateZeros_wf _ (wf_setData hwf hlen)), eliminateZeros_noStoredZeros _, rfl, rfl⟩

/-! ### table level: the predicate holds of the model, for every length-preserving function -/

section generic
variable [Zero α] [DecidableEq α]

section clauses
variable {t : Table α} {ax : Axis} {cs : CS α} (hp : Pre t ax cs) (f : VFun α) (inplace : Bool)
include hp

theorem cFrame_run : cFrame t (runObs f ax inplace t cs).result = true := by
  obtain ⟨h1, h2, h3, h4, h5⟩ := setMajorGrid_frame t ax (newGrid f t ax cs)
  have hw := (Layer.table_wfb_iff _).mpr (setMajorGrid_wf t ((Layer.table_wfb_iff t).mp hp.twf) ax _
    ((newGrid_length f t ax cs).trans hp.nMajor) (newGrid_rect hp f))
  simp only [cFrame, runObs, h1, h2, h3, h4, h5, hw, decide_true, Bool.and_self]

theorem cLogIds_run : cLogIds t ax (runObs f ax inplace t cs).log = true := by
  rw [cLogIds, Bool.and_eq_true, decide_eq_true_eq, List.all_eq_true]
  constructor
  · rw [runObs, List.map_map, hp.nMajor]
    exact range_map_getD (t.ids ax) ""
  · intro c hc
    obtain ⟨j, hj, rfl⟩ := List.mem_map.mp hc
    exact decide_eq_true (mdOf?_getD t ax hp.nodup j (hp.nMajor ▸ List.mem_range.mp hj)).symm

theorem cLogArgs_run : cLogArgs t ax (runObs f ax inplace t cs).log = true := by
  rw [cLogArgs, List.all_eq_true]
  intro c hc
  obtain ⟨j, hj, rfl⟩ := List.mem_map.mp hc
  have hj' := List.mem_range.mp hj
  simp only [callAt]
  rw [vec_old hp j hj']
  exact decide_eq_true (seg_args hp.cswf hp.noZeros hj')

theorem cWriteBack_run (hf : LenPres f) :
    cWriteBack t ax (runObs f ax inplace t cs).log (runObs f ax inplace t cs).result = true := by
  rw [cWriteBack, List.all_eq_true]
  intro c hc
  obtain ⟨j, hj, rfl⟩ := List.mem_map.mp hc
  have hj' := List.mem_range.mp hj
  simp only [callAt]
  rw [vec_old hp j hj', vec_new hp f inplace j hj']
  simp only [Bool.and_eq_true, beq_iff_eq]
  exact ⟨⟨hf _ _ _, dv_length_eq _ _ _ _⟩, decide_eq_true (seg_pairs hp.cswf hp.noZeros hj' (hf _ _ _))⟩

theorem cZeros_run (hf : LenPres f) : cZeros t ax (runObs f ax inplace t cs).result = true := by
  rw [cZeros, List.all_eq_true]
  intro id hid
  obtain ⟨j, hj, hv, hw⟩ := vecs_of_id hp f inplace id hid
  rw [hv, hw]
  simp only [Bool.and_eq_true, beq_iff_eq, decide_eq_true_eq, List.all_eq_true, Bool.or_eq_true]
  refine ⟨⟨dv_length_eq _ _ _ _, fun p hp' => ?_⟩, seg_nz_le hp.cswf hp.noZeros hj (hf _ _ _)⟩
  by_cases h0 : p.1 = 0
  · exact Or.inr (seg_zeros hp.cswf hp.noZeros hj (hf _ _ _) p hp' h0)
  · exact Or.inl h0

omit hp in
theorem cInplace_run : cInplace t inplace (runObs f ax inplace t cs) = true := by
  cases inplace <;> exact decide_eq_true rfl

end clauses

/-- **model_holds**: for every table, axis, in-place flag, every layout within the contract and
every length-preserving user function, the model run succeeds and the predicate `holds` is true
of what it lets an observer see. -/
theorem model_holds (f : VFun α) (ax : Axis) (inplace : Bool) (t : Table α) (cs : CS α)
    (hp : Pre t ax cs) (hf : LenPres f) :
    ∃ o, transform f ax inplace t cs = .ok o ∧ holds t ax inplace o = true := by
  refine ⟨_, transform_run hp f inplace hf, ?_⟩
  rw [holds, cFrame_run hp, cLogIds_run hp, cLogArgs_run hp, cWriteBack_run hp f inplace hf,
    cZeros_run hp f inplace hf, cInplace_run]
  rfl

/-! ### in the property's own words -/

/-- `transform_support`: zero cells stay zero, and no vector gains a non-zero cell — for every
function, every vector of the axis, looked up by ID. -/
theorem transform_support (f : VFun α) (ax : Axis) (inplace : Bool) (t : Table α) (cs : CS α)
    (hp : Pre t ax cs) (hf : LenPres f) :
    ∃ o, transform f ax inplace t cs = .ok o ∧ ∀ id ∈ t.ids ax, ∃ v w,
      t.vec? ax id = some v ∧ o.result.vec? ax id = some w ∧ v.length = w.length ∧
      (∀ p ∈ v.zip w, p.1 = 0 → p.2 = 0) ∧ (nz w).length ≤ (nz v).length := by
  refine ⟨_, transform_run hp f inplace hf, fun id hid => ?_⟩
  obtain ⟨j, hj, hv, hw⟩ := vecs_of_id hp f inplace id hid
  exact ⟨_, _, hv, hw, dv_length_eq _ _ _ _,
    seg_zeros hp.cswf hp.noZeros hj (hf _ _ _), seg_nz_le hp.cswf hp.noZeros hj (hf _ _ _)⟩

theorem sum_map_le (l : List Nat) (a b : Nat → Nat) (h : ∀ j ∈ l, a j ≤ b j) : (l.map a).sum ≤ (l.map b).sum := by
  induction l with
  | nil => exact Nat.le_refl _
  | cons x xs ih =>
    rw [List.map_cons, List.map_cons, List.sum_cons, List.sum_cons]
    exact Nat.add_le_add (h x List.mem_cons_self) (ih fun j hj => h j (List.mem_cons_of_mem _ hj))

def countNz (g : List (List α)) : Nat := (g.map (fun r => (nz r).length)).sum

/-- the number of non-zero cells never increases (density never increases) -/
theorem transform_density (f : VFun α) (ax : Axis) (t : Table α) (cs : CS α) (hp : Pre t ax cs) (hf : LenPres f) :
    countNz (newGrid f t ax cs) ≤ countNz cs.toDense := by
  unfold countNz
  rw [toDense_eq, newGrid, List.map_map, List.map_map]
  exact sum_map_le _ _ _ fun j hj => seg_nz_le hp.cswf hp.noZeros (List.mem_range.mp hj) (hf _ _ _)

/-! ### element-wise functions -/

theorem newGrid_elem (g : α → α) (ax : Axis) (t : Table α) (cs : CS α) (hp : Pre t ax cs) :
    newGrid (elemF g) t ax cs = (majorGrid t ax).map (·.map (zmap g)) := by
  rw [← hp.dense, toDense_eq, newGrid, List.map_map]
  exact List.map_congr_left fun j _ => vec_elem g cs.nMinor (idxSeg cs j) (valSeg cs j) (valSeg_nonzero hp.noZeros j)

omit [Zero α] [DecidableEq α] in
theorem setMajorGrid_map (h : α → α) (ax : Axis) (t : Table α) (ht : t.wfb = true) :
    setMajorGrid t ax ((majorGrid t ax).map (·.map h)) = { t with rows := t.rows.map (·.map h) } := by
  cases ax with
  | obs => rfl
  | samp =>
    obtain ⟨h1, h2, _, _⟩ := (Layer.table_wfb_iff t).mp ht
    simp only [setMajorGrid, majorGrid]
    rw [← transposeGrid_map, Layer.transposeGrid_transposeGrid (by rw [List.length_map]; exact h1)]
    intro r hr
    obtain ⟨r', hr', rfl⟩ := List.mem_map.mp hr
    rw [List.length_map]; exact h2 r' hr'

omit [Zero α] [DecidableEq α] in
theorem lenPres_elem (g : α → α) : LenPres (elemF g) := fun _ _ _ => List.length_map _

/-- an element-wise function acts cell by cell on the non-zero cells, along whichever axis -/
theorem elementwise_result (g : α → α) (ax : Axis) (inplace : Bool) (t : Table α) (cs : CS α) (hp : Pre t ax cs) :
    ∃ o, transform (elemF g) ax inplace t cs = .ok o ∧
      o.result = { t with rows := t.rows.map (·.map (zmap g)) } :=
  ⟨_, transform_run hp _ inplace (lenPres_elem g),
    (congrArg (setMajorGrid t ax) (newGrid_elem g ax t cs hp)).trans (setMajorGrid_map (zmap g) ax t hp.twf)⟩

/-- `elementwise_axis_free`: `f v = v.map g` gives the same table along either axis, whatever the
two layouts (row-compressed for observations, column-compressed for samples) look like. -/
theorem elementwise_axis_free (g : α → α) (i₁ i₂ : Bool) (t : Table α) (csR csC : CS α)
    (hR : Pre t .obs csR) (hC : Pre t .samp csC) :
    ∃ o₁ o₂, transform (elemF g) .obs i₁ t csR = .ok o₁ ∧ transform (elemF g) .samp i₂ t csC = .ok o₂ ∧
      o₁.result = o₂.result ∧ cElem g t o₁.result = true := by
  obtain ⟨o₁, h1, r1⟩ := elementwise_result g .obs i₁ t csR hR
  obtain ⟨o₂, h2, r2⟩ := elementwise_result g .samp i₂ t csC hC
  exact ⟨o₁, o₂, h1, h2, r1.trans r2.symm, r1 ▸ decide_eq_true rfl⟩

/-- `pa_spec`: presence/absence puts 1 exactly on the non-zero cells (0 elsewhere) -/
theorem pa_spec [One α] (ax : Axis) (inplace : Bool) (t : Table α) (cs : CS α) (hp : Pre t ax cs) :
    ∃ o, transform paF ax inplace t cs = .ok o ∧ cPa t o.result = true ∧
      o.result = { t with rows := t.rows.map (·.map (fun x => if x = 0 then 0 else 1)) } := by
  obtain ⟨o, ho, hr⟩ := elementwise_result (fun x : α => if x = 0 then 0 else 1) ax inplace t cs hp
  rw [zmap_of_zero (fun x : α => if x = 0 then 0 else 1) (if_pos rfl)] at hr
  exact ⟨o, ho, hr ▸ decide_eq_true rfl, hr⟩

/-! ### ranks (the ranking function is external; its contract is a hypothesis) -/

/-- contract of `scipy.stats.rankdata(·, method)`: one rank per value, ranks are positive (non-zero),
and permuting the values permutes the (value, rank) pairs -/
structure RankOK (rank : List α → List α) : Prop where
  len : ∀ v, (rank v).length = v.length
  pos : ∀ v, ∀ x ∈ rank v, x ≠ 0
  equivariant : ∀ v w : List α, v.Perm w → (v.zip (rank v)).Perm (w.zip (rank w))

/-- `rank_support`: the (value, rank) pairs of each vector's non-zero cells are those the ranking
function gives for the vector's non-zero values, and a cell is zero afterwards exactly when it
was zero before. -/
theorem rank_support (rank : List α → List α) (hr : RankOK rank) (ax : Axis) (inplace : Bool) (t : Table α)
    (cs : CS α) (hp : Pre t ax cs) :
    ∃ o, transform (rankF rank) ax inplace t cs = .ok o ∧ cRank rank t ax o.result = true ∧
      ∀ id ∈ t.ids ax, ∃ v w, t.vec? ax id = some v ∧ o.result.vec? ax id = some w ∧
        ∀ p ∈ v.zip w, p.1 = 0 ↔ p.2 = 0 := by
  have hf : LenPres (rankF rank) := fun v _ _ => hr.len v
  -- the non-zero (old, new) pairs of vector `j` are the stored values zipped with their ranks
  have key : ∀ j, j < cs.nMajor → (nzPairs (dv cs.nMinor (idxSeg cs j) (valSeg cs j))
      (dv cs.nMinor (idxSeg cs j) (retOf (rankF rank) t ax cs j))).Perm ((valSeg cs j).zip (rank (valSeg cs j))) :=
    fun j hj => (seg_pairs hp.cswf hp.noZeros hj (hf _ _ _)).symm
  have hpos : ∀ j, j < cs.nMajor → ∀ p ∈ nzPairs (dv cs.nMinor (idxSeg cs j) (valSeg cs j))
      (dv cs.nMinor (idxSeg cs j) (retOf (rankF rank) t ax cs j)), p.2 ≠ 0 :=
    fun j hj p hp' => hr.pos _ _ (List.of_mem_zip ((key j hj).mem_iff.mp hp')).2
  refine ⟨_, transform_run hp _ inplace hf, ?_, fun id hid => ?_⟩
  · rw [cRank, List.all_eq_true]
    intro id hid
    obtain ⟨j, hj, hv, hw⟩ := vecs_of_id hp (rankF rank) inplace id hid
    rw [hv, hw]
    simp only [Bool.and_eq_true, beq_iff_eq, List.all_eq_true]
    exact ⟨⟨dv_length_eq _ _ _ _,
      decide_eq_true ((key j hj).trans (hr.equivariant _ _ (seg_args hp.cswf hp.noZeros hj)))⟩,
      fun p hp' => decide_eq_true (hpos j hj p hp')⟩
  · obtain ⟨j, hj, hv, hw⟩ := vecs_of_id hp (rankF rank) inplace id hid
    exact ⟨_, _, hv, hw, fun p hp' => ⟨seg_zeros hp.cswf hp.noZeros hj (hf _ _ _) p hp', fun h2 =>
      Decidable.byContradiction fun h1 => hpos j hj p (List.mem_filter.mpr ⟨hp', decide_eq_true h1⟩) h2⟩⟩

end generic

/-! ### normalisation, over the rationals -/

theorem sumL_nz (v : List Rat) : sumL (nz v) = sumL v := by
  induction v with
  | nil => rfl
  | cons x xs ih =>
    by_cases hx : x = 0
    · subst hx
      have : nz (0 :: xs) = nz xs := List.filter_cons_of_neg fun h => of_decide_eq_true h rfl
      rw [this, ih, sumL_cons, zero_add]
    · have : nz (x :: xs) = x :: nz xs := List.filter_cons_of_pos (decide_eq_true hx)
      rw [this, sumL_cons, sumL_cons, ih]

theorem sumL_map_div (v : List Rat) (s : Rat) : sumL (v.map (· / s)) = sumL v / s := by
  induction v with
  | nil => exact (zero_div s).symm
  | cons x xs ih => rw [List.map_cons, sumL_cons, sumL_cons, ih, add_div]

/-- `norm_sum_one`: a vector with non-zero total sums to 1 after normalisation -/
theorem norm_sum_one (v : List Rat) (id : Id) (md : Option Md) (h : sumL v ≠ 0) : sumL (normF v id md) = 1 := by
  unfold normF
  rw [sumL_map_div, div_self h]

/-- `norm_proportional`: proportions inside the vector are preserved -/
theorem norm_proportional (v : List Rat) (id : Id) (md : Option Md) :
    ∀ p ∈ v.zip (normF v id md), ∀ q ∈ v.zip (normF v id md), p.2 * q.1 = q.2 * p.1 := by
  intro p hp q hq
  unfold normF at hp hq
  rw [mem_zip_map_self _ v p.1 p.2 hp, mem_zip_map_self _ v q.1 q.2 hq]
  ring

theorem absR_nonneg (x : Rat) : 0 ≤ absR x := by
  unfold absR
  split
  · exact neg_nonneg.mpr (le_of_lt ‹_›)
  · exact not_lt.mp ‹_›

theorem approx_refl (tol a : Rat) (h : 0 ≤ tol) : approx tol a a = true := by
  have h0 : absR 0 = 0 := if_neg (lt_irrefl 0)
  rw [approx, sub_self, h0, maxR, if_pos (le_refl _)]
  exact decide_eq_true (mul_nonneg h (absR_nonneg a))

/-- the divisor `norm` uses (sum of the stored values) is the vector's total -/
theorem stored_sum (t : Table Rat) (ax : Axis) (cs : CS Rat) (hp : Pre t ax cs) (j : Nat) (hj : j < cs.nMajor) :
    sumL (valSeg cs j) = sumL (dv cs.nMinor (idxSeg cs j) (valSeg cs j)) :=
  (sumL_perm _ _ (seg_args hp.cswf hp.noZeros hj)).trans (sumL_nz _)

theorem lenPres_norm : LenPres (normF : VFun Rat) := fun _ _ _ => List.length_map _

/-- table level: every vector of the axis is divided by its own total -/
theorem norm_vectors (ax : Axis) (inplace : Bool) (t : Table Rat) (cs : CS Rat) (hp : Pre t ax cs) :
    ∃ o, transform normF ax inplace t cs = .ok o ∧ ∀ id ∈ t.ids ax, ∃ v,
      t.vec? ax id = some v ∧ o.result.vec? ax id = some (v.map (· / sumL v)) := by
  refine ⟨_, transform_run hp _ inplace lenPres_norm, fun id hid => ?_⟩
  obtain ⟨j, hj, hv, hw⟩ := vecs_of_id hp normF inplace id hid
  refine ⟨_, hv, hw.trans (congrArg some ?_)⟩
  show dv _ _ ((valSeg cs j).map fun x => x / sumL (valSeg cs j)) = _
  rw [vec_elem _ cs.nMinor (idxSeg cs j) (valSeg cs j) (valSeg_nonzero hp.noZeros j),
    zmap_of_zero (· / sumL (valSeg cs j)) (zero_div _), stored_sum t ax cs hp j hj]

/-- the normalisation clause of the predicate holds of the model, for every tolerance ≥ 0:
every vector with non-zero total sums to 1 and `R[i]·T[j] = R[j]·T[i]` -/
theorem norm_holds (tol : Rat) (htol : 0 ≤ tol) (ax : Axis) (inplace : Bool) (t : Table Rat) (cs : CS Rat)
    (hp : Pre t ax cs) :
    ∃ o, transform normF ax inplace t cs = .ok o ∧ cNorm tol t ax o.result = true := by
  obtain ⟨o, ho, hv⟩ := norm_vectors ax inplace t cs hp
  refine ⟨o, ho, ?_⟩
  unfold cNorm
  rw [List.all_eq_true]
  intro id hid
  obtain ⟨v, h1, h2⟩ := hv id hid
  rw [h1, h2]
  simp only [Bool.and_eq_true, beq_iff_eq, Bool.or_eq_true, List.all_eq_true, decide_eq_true_eq]
  refine ⟨(List.length_map _).symm, ?_⟩
  by_cases hs : sumL v = 0
  · exact Or.inl hs
  · refine Or.inr ⟨?_, ?_⟩
    · have := norm_sum_one v "" none hs
      unfold normF at this
      rw [this]
      exact approx_refl tol 1 htol
    · intro p hp' q hq'
      have := norm_proportional v "" none p hp' q hq'
      rw [this]
      exact approx_refl tol _ htol

/-! ### a stored zero below the API: `NoStoredZeros` cannot be dropped -/

/-- 2 x 3 row-compressed matrix [[3,0,5],[0,2,0]] whose first row stores its zero explicitly -/
def wCS : CS Int := { nMajor := 2, nMinor := 3, indptr := [0, 3, 4], indices := [0, 1, 2, 1], data := [3, 0, 5, 2] }

/-- a ranking-like function: every value handed over gets the (non-zero) value 1 -/
def wF : VFun Int := fun v _ _ => v.map (fun _ => 1)

/-- `stored_zero_witness`: the matrix is well-formed, the kernel hands the stored zero to the
function (the values passed are NOT the non-zero values of the vector), and the zero cell of the
dense matrix becomes 1 — so "only non-zero values, zero cells stay zero" needs `NoStoredZeros`
at kernel level. -/
theorem stored_zero_witness :
    wCS.wfb = true ∧ wCS.toDense = [[3, 0, 5], [0, 2, 0]] ∧
    (match transformKernel wF ["a", "b"] none wCS with
     | .ok (cs', log) =>
       decide (log.map (·.args) = [[3, 0, 5], [2]]) && !decide (([3, 0, 5] : List Int).Perm (nz [3, 0, 5])) &&
       decide ((eliminateZeros cs').toDense = [[1, 1, 1], [0, 1, 0]])
     | .error _ => false) = true := by
  decide +kernel

/-- a function returning one value fewer makes the kernel fail (numpy: "could not broadcast"),
except where numpy broadcasts a single value -/
theorem length_mismatch_witness :
    (match transformKernel (fun v _ _ => v.dropLast) ["a", "b"] none wCS with
     | .ok _ => false | .error e => e == .value) = true ∧
    (match transformKernel (fun v _ _ => [v.foldr (· + ·) 0]) ["a", "b"] none wCS with
     | .ok (cs', _) => cs'.data == [8, 8, 8, 2] | .error _ => false) = true := by
  decide +kernel

/-! ### non-vacuity: the hypotheses are met by a concrete asymmetric table and unsorted layouts -/

def exT : Table Int :=
  { obs := ["o1", "o2"], samp := ["s1", "s2", "s3"], rows := [[3, 0, 5], [0, 2, 7]],
    omd := some [[("k", "1")], [("k", "2")]], smd := none, ttype := some "OTU table" }

/-- row-compressed, entries of row 0 stored out of order -/
def exR : CS Int := { nMajor := 2, nMinor := 3, indptr := [0, 2, 4], indices := [2, 0, 1, 2], data := [5, 3, 2, 7] }
/-- column-compressed, entries of column 2 stored out of order -/
def exC : CS Int := { nMajor := 3, nMinor := 2, indptr := [0, 1, 2, 4], indices := [0, 1, 1, 0], data := [3, 2, 7, 5] }

theorem exR_wf : exR.WF := (CS.wfb_iff _).mp (by decide +kernel)
theorem exC_wf : exC.WF := (CS.wfb_iff _).mp (by decide +kernel)

theorem exR_pre : Pre exT .obs exR :=
  ⟨by decide +kernel, by decide +kernel, exR_wf, rfl, rfl, by decide +kernel, by unfold CS.NoStoredZeros; decide +kernel⟩
theorem exC_pre : Pre exT .samp exC :=
  ⟨by decide +kernel, by decide +kernel, exC_wf, rfl, rfl, by decide +kernel, by unfold CS.NoStoredZeros; decide +kernel⟩

/-- a vector-wise, zeroing, length-preserving function: keep the first stored value, zero the rest -/
def exF : VFun Int := fun v _ _ => match v with | [] => [] | x :: xs => x :: xs.map (fun _ => 0)

theorem exF_lenPres : LenPres exF := by
  intro v _ _
  cases v <;> simp [exF]

example : ∃ o, transform exF .obs true exT exR = .ok o ∧ holds exT .obs true o = true :=
  model_holds exF .obs true exT exR exR_pre exF_lenPres
example : ∃ o, transform exF .samp false exT exC = .ok o ∧ holds exT .samp false o = true :=
  model_holds exF .samp false exT exC exC_pre exF_lenPres

/-- the run is not trivial: along samples the third column [5,7] is stored as (7,5), the function
keeps 7 and zeroes 5; the result has 3 non-zero cells instead of 4 and the receiver is untouched -/
example : (match transform exF .samp false exT exC with
    | .ok o => o.result.rows == [[3, 0, 0], [0, 2, 7]] && o.log.map (·.args) == [[3], [2], [7, 5]] &&
               o.log.map (·.id) == ["s1", "s2", "s3"] && decide (o.selfAfter = exT)
    | .error _ => false) = true := by decide +kernel

example : ∃ o₁ o₂, transform (elemF (· * 2)) .obs true exT exR = .ok o₁ ∧
    transform (elemF (· * 2)) .samp false exT exC = .ok o₂ ∧ o₁.result = o₂.result ∧
    cElem (· * 2) exT o₁.result = true :=
  elementwise_axis_free (· * 2) true false exT exR exC exR_pre exC_pre

/-- a ranking function meeting the contract exists (every value gets rank 1: `method='dense'` on
all-equal values); the theorem is about every such function -/
theorem constRank_ok : RankOK (fun v : List Int => v.map (fun _ => 1)) := by
  refine ⟨fun v => List.length_map _, fun v x hx => ?_, fun v w h => ?_⟩
  · obtain ⟨_, _, rfl⟩ := List.mem_map.mp hx; decide
  · have : ∀ u : List Int, u.zip (u.map (fun _ => (1 : Int))) = u.map (fun x => (x, 1)) := fun u => by
      simpa using List.zip_map' (f := id) (g := fun _ => (1 : Int)) (l := u)
    rw [this, this]; exact h.map _

example : ∃ o, transform (rankF (fun v : List Int => v.map (fun _ => 1))) .samp true exT exC = .ok o ∧
    cRank (fun v : List Int => v.map (fun _ => 1)) exT .samp o.result = true := by
  obtain ⟨o, h1, h2, _⟩ := rank_support _ constRank_ok .samp true exT exC exC_pre
  exact ⟨o, h1, h2⟩

def exTq : Table Rat :=
  { obs := ["o1", "o2"], samp := ["s1", "s2", "s3"], rows := [[3, 0, 5], [0, 2, 6]] }
def exCq : CS Rat := { nMajor := 3, nMinor := 2, indptr := [0, 1, 2, 4], indices := [0, 1, 1, 0], data := [3, 2, 6, 5] }
theorem exCq_wf : exCq.WF := (CS.wfb_iff _).mp (by decide +kernel)
theorem exCq_pre : Pre exTq .samp exCq :=
  ⟨by decide +kernel, by decide +kernel, exCq_wf, rfl, rfl, by decide +kernel, by unfold CS.NoStoredZeros; decide +kernel⟩

example : ∃ o, transform normF .samp true exTq exCq = .ok o ∧ cNorm (1 / 1099511627776) exTq .samp o.result = true :=
  norm_holds _ (by decide +kernel) .samp true exTq exCq exCq_pre

example : sumL ([5, 6] : List Rat) ≠ 0 := by decide +kernel

end Biom.C13
