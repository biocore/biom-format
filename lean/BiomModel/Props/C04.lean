/-
  C04 — property theorems.  For EVERY table (any numbers of observations and samples incl. 0 x M and
  N x 0, any grid, any IDs, metadata of the per-category-homogeneous domain), every header, every
  utf-8 codec satisfying the round-trip contract, and EVERY pair of matrix layouts satisfying the
  scipy contract `Views` (any index order inside a vector): the tree `to_hdf5` writes satisfies
  `C04.holds`, i.e. has the structure biom-2.1.rst requires, and the spec-only reader recovers the
  table's IDs and grid from both views.
-/
import BiomModel.Lemmas.C04

namespace Biom.C04
open Biom Biom.Hdf5

set_option linter.unusedSectionVars false

variable {α δ : Type} [Zero α] [DecidableEq α]

/-- `to_hdf5` succeeds on the domain and writes exactly the tree `written`. -/
theorem toH5_written (c : Utf8) (dc : DateC δ) (t : Src α) (genBy : String) (date : Option δ) (now : δ)
    (csr csc : CS α) (hw : SrcWF t) (hv : Views t csr csc) (hmo : mdDomain t.omd = true)
    (hms : mdDomain t.smd = true) :
    toH5 c dc t genBy date now csr csc = .ok (written c dc t genBy date now csr csc) := by
  have hsc := views_sameCount t csr csc hw hv
  unfold toH5
  simp only [axGrp_ok c t.obs t.omd t.ogmd t.ogmdBare _ csr hmo rfl hv.csrWF.sameLen,
    axGrp_ok c t.samp t.smd t.sgmd t.sgmdBare _ csc hms hsc (hv.cscWF.sameLen.trans hsc),
    bind, Except.bind, pure, Except.pure]
  rfl

/-- `nnz` attribute = stored entries of the row view = number of non-zero cells of the table -/
theorem nnz_true (t : Src α) (csr csc : CS α) (hv : Views t csr csc) :
    csr.data.length = nnzGrid t.rows := by
  rw [stored_eq_nnz hv.csrWF hv.csrNZ, hv.csrDense]

theorem specView_matTree (cs : CS α) (major minor z : Nat) (hwf : cs.WF) (hM : cs.nMajor = major)
    (hm : cs.nMinor = minor) (hz : cs.data.length = z) :
    specView major minor z (some (matTree cs)) = .ok cs.toDense := by
  rw [specView, readView_matTree cs major minor hM hm]
  simp only [bind, Except.bind, (CS.wfb_iff cs).mpr hwf, hz, beq_self_eq_true, Bool.and_self, if_true]

/-! A tree `h` with the root attributes and axis groups that `to_hdf5` writes.  Stated for a variable tree and
instantiated with `written …` last: on the concrete tree every step unfolds it again, which is slow to check. -/
section tree
variable (c : Utf8) (dc : DateC δ) (t : Src α) (genBy : String) (date : Option δ) (now : δ) (csr csc : CS α)
  (h : H5 α) (ha : h.attrs = attrTree dc t genBy date now csr)
include ha

theorem attrsOK_of_attrTree (hv : Views t csr csc) : attrsOK t h = true := by
  obtain ⟨h1, h2, h3, h4, h5, h6, h7, h8⟩ := lookup_attrTree dc t genBy date now csr
  simp only [attrsOK, isStrAttr, ha, h1, h2, h3, h4, h5, h6, h7, h8, hv.csrMajor, hv.csrMinor,
    nnz_true t csr csc hv, beq_self_eq_true, Bool.and_self]

theorem headerOK_of_attrTree : headerOK t genBy (date.map dc.iso) h = true := by
  obtain ⟨h1, h2, h3, _, h5, h6, _⟩ := lookup_attrTree dc t genBy date now csr
  cases date <;>
    simp only [headerOK, ha, h1, h2, h3, h5, h6, Option.map, Option.getD, beq_self_eq_true, Bool.and_self]

theorem specDecode_of_tree (hc : c.RT) (hw : SrcWF t) (hv : Views t csr csc)
    (hobs : h.obs = some (axTree c t.obs t.omd (gmdAll t.ogmd t.ogmdBare) csr))
    (hsamp : h.samp = some (axTree c t.samp t.smd (gmdAll t.sgmd t.sgmdBare) csc)) :
    specDecode c h = .ok { obs := t.obs, samp := t.samp, byObs := t.rows, bySamp := t.rows } := by
  unfold specDecode
  simp only [attrShape_of_attrTree _ _ _ _ _ _ h ha, attrNat_of_attrTree _ _ _ _ _ _ h ha, hv.csrMajor, hv.csrMinor,
    bind, Except.bind]
  simp only [hobs, hsamp, reqE, axTree, specIds_strDs c hc, and_self, if_true,
    specView_matTree csr _ _ _ hv.csrWF hv.csrMajor hv.csrMinor rfl, hv.csrDense,
    specView_matTree csc _ _ _ hv.cscWF hv.cscMajor hv.cscMinor (views_sameCount t csr csc hw hv), hv.cscDense,
    pure, Except.pure, transpose_transpose t.rows _ _ hw.rowsLen hw.rowLen]

end tree

/-- required attributes with their kinds; `shape` = true dimensions, `nnz` = true non-zero count -/
theorem written_attrs (c : Utf8) (dc : DateC δ) (t : Src α) (genBy : String) (date : Option δ) (now : δ)
    (csr csc : CS α) (hv : Views t csr csc) :
    attrsOK t (written c dc t genBy date now csr csc) = true :=
  attrsOK_of_attrTree dc t genBy date now csr csc _ rfl hv

/-- header values: generated-by = the argument, creation-date = the supplied date, id / type with
their placeholders -/
theorem written_headerOK (c : Utf8) (dc : DateC δ) (t : Src α) (genBy : String) (date : Option δ) (now : δ)
    (csr csc : CS α) :
    headerOK t genBy (date.map dc.iso) (written c dc t genBy date now csr csc) = true :=
  headerOK_of_attrTree dc t genBy date now csr _ rfl

theorem written_groups (c : Utf8) (dc : DateC δ) (t : Src α) (genBy : String) (date : Option δ) (now : δ)
    (csr csc : CS α) :
    (axGroupsOK (written c dc t genBy date now csr csc).obs &&
     axGroupsOK (written c dc t genBy date now csr csc).samp) = true := rfl

/-- `ids`: a variable-length string dataset (also for an empty axis), one entry per ID, axis order -/
theorem written_ids (c : Utf8) (hc : c.RT) (ids : List Id) (md : Option (List (MdE α)))
    (gmd : List (String × String × String)) (cs : CS α) :
    idsOK c ids (some (axTree c ids md gmd cs)) = true := by
  simp only [idsOK, axTree, specIds_strDs c hc ids]
  exact okEq_ok ids

/-- one well-formed matrix group: offsets of length major+1 starting at 0, monotone, ending at
`nnz = |data| = |indices|`, indices in range, no duplicate index in a vector, no stored zero -/
theorem written_view (c : Utf8) (ids : List Id) (md : Option (List (MdE α)))
    (gmd : List (String × String × String)) (cs : CS α) (major minor z : Nat)
    (hwf : cs.WF) (hnz : cs.NoStoredZeros) (hM : cs.nMajor = major) (hm : cs.nMinor = minor)
    (hz : cs.data.length = z) :
    viewOK major minor z (some (axTree c ids md gmd cs)) = true := by
  unfold viewOK
  simp only [axTree, readView_matTree cs major minor hM hm]
  simp only [(CS.wfb_iff cs).mpr hwf, hz, hwf.sameLen, beq_self_eq_true, Bool.and_self, Bool.true_and, List.all_eq_true,
    decide_eq_true_eq]
  exact hnz

/-- The spec-only reader recovers IDs and grid, from the row view and from the column view. -/
theorem specDecode_written (c : Utf8) (hc : c.RT) (dc : DateC δ) (t : Src α) (genBy : String)
    (date : Option δ) (now : δ) (csr csc : CS α) (hw : SrcWF t) (hv : Views t csr csc) :
    specDecode c (written c dc t genBy date now csr csc) =
      .ok { obs := t.obs, samp := t.samp, byObs := t.rows, bySamp := t.rows } :=
  specDecode_of_tree c dc t genBy date now csr csc _ rfl hc hw hv rfl rfl

theorem written_decode (c : Utf8) (hc : c.RT) (dc : DateC δ) (t : Src α) (genBy : String)
    (date : Option δ) (now : δ) (csr csc : CS α) (hw : SrcWF t) (hv : Views t csr csc) :
    decodeOK c t (written c dc t genBy date now csr csc) = true := by
  simp only [decodeOK, specDecode_written c hc dc t genBy date now csr csc hw hv, beq_self_eq_true, Bool.and_self]

/-- The property on the model: everything `C04.holds` demands is true of the written tree. -/
theorem toH5_specWF (c : Utf8) (hc : c.RT) (dc : DateC δ) (t : Src α) (genBy : String) (date : Option δ)
    (now : δ) (csr csc : CS α) (hw : SrcWF t) (hv : Views t csr csc)
    (hmo : mdDomain t.omd = true) (hms : mdDomain t.smd = true) :
    ∃ h, toH5 c dc t genBy date now csr csc = .ok h ∧ holds c t genBy (date.map dc.iso) h = true := by
  refine ⟨_, toH5_written c dc t genBy date now csr csc hw hv hmo hms, ?_⟩
  have hz := nnz_true t csr csc hv
  simp only [holds, clauses, List.all_cons, List.all_nil, Bool.and_true, Bool.and_eq_true]
  refine ⟨written_attrs c dc t genBy date now csr csc hv, written_headerOK c dc t genBy date now csr csc,
    Bool.and_eq_true_iff.mp (written_groups c dc t genBy date now csr csc),
    written_ids c hc _ _ _ _, written_ids c hc _ _ _ _,
    mdOK_mdTree c hc t.obs t.omd hw.omdLen hmo _ rfl, mdOK_mdTree c hc t.samp t.smd hw.smdLen hms _ rfl,
    gmdOK_axTree c hc _ _ _ _ hw.ogmdKeys, gmdOK_axTree c hc _ _ _ _ hw.sgmdKeys,
    written_view c _ _ _ csr _ _ _ hv.csrWF hv.csrNZ hv.csrMajor hv.csrMinor hz,
    written_view c _ _ _ csc _ _ _ hv.cscWF hv.cscNZ hv.cscMajor hv.cscMinor ((views_sameCount t csr csc hw hv).trans hz),
    written_decode c hc dc t genBy date now csr csc hw hv⟩

/-- `specDecodeObs = specDecodeSamp = D`, as a statement about `to_hdf5` itself -/
theorem specDecode_toH5 (c : Utf8) (hc : c.RT) (dc : DateC δ) (t : Src α) (genBy : String) (date : Option δ)
    (now : δ) (csr csc : CS α) (hw : SrcWF t) (hv : Views t csr csc)
    (hmo : mdDomain t.omd = true) (hms : mdDomain t.smd = true) :
    (toH5 c dc t genBy date now csr csc).bind (specDecode c) =
      .ok { obs := t.obs, samp := t.samp, byObs := t.rows, bySamp := t.rows } := by
  rw [toH5_written c dc t genBy date now csr csc hw hv hmo hms, Except.bind]
  exact specDecode_written c hc dc t genBy date now csr csc hw hv

/-- `compress` is not an input of the logical tree: whatever its value, the tree is `toH5 …`.
(Stated as: the model function has no such parameter; two calls that differ only in `compress`
are the same call.)  The clock matters only when no date is supplied. -/
theorem toH5_date_supplied (c : Utf8) (dc : DateC δ) (t : Src α) (genBy : String) (d now now' : δ)
    (csr csc : CS α) :
    toH5 c dc t genBy (some d) now csr csc = toH5 c dc t genBy (some d) now' csr csc := rfl

/-- Header fields: `generated-by` and `creation-date` come from the ARGUMENTS of `to_hdf5`; whatever
`generated_by` / `create_date` the table object itself carries does not reach the file. -/
theorem toH5_ignores_own_header (c : Utf8) (dc : DateC δ) (t : Src α) (g d : Option String) (genBy : String)
    (date : Option δ) (now : δ) (csr csc : CS α) :
    toH5 c dc { t with ownGeneratedBy := g, ownCreateDate := d } genBy date now csr csc =
      toH5 c dc t genBy date now csr csc := rfl

theorem written_header (c : Utf8) (dc : DateC δ) (t : Src α) (genBy : String) (date : Option δ) (now : δ)
    (csr csc : CS α) :
    attrStr (written c dc t genBy date now csr csc) "generated-by" = .ok genBy ∧
    attrStr (written c dc t genBy date now csr csc) "creation-date" = .ok (dc.iso (date.getD now)) ∧
    attrStr (written c dc t genBy date now csr csc) "id" = .ok (idAttr t.tableId) ∧
    attrStr (written c dc t genBy date now csr csc) "type" = .ok (typeAttr t.ttype) :=
  attrStr_of_attrTree dc t genBy date now csr _ rfl

/-! Non-vacuity: a concrete 2 x 3 table with text, numeric and hierarchical metadata, a category
name with '/', unsorted indices in the row view — the hypotheses hold and so does the property. -/

def demoSrc : Src Int :=
  { obs := ["o1", "o 2"], samp := ["s1", "s/2", "s3"], rows := [[1, 0, 2], [0, 0, -4]],
    omd := some [[("taxonomy", .list ["k__A", "p__x"]), ("na/me", .text "é")],
                 [("na/me", .text "v"), ("taxonomy", .list ["k__B"])]],
    smd := some [[("depth", .int 3)], [("depth", .int (-1))], [("depth", .int 0)]],
    ttype := some "OTU table", ogmd := [("tree", "newick", "(a,b);")], sgmdBare := [("rel", "ab")] }
def demoCsr : CS Int := { nMajor := 2, nMinor := 3, indptr := [0, 2, 3], indices := [2, 0, 2], data := [2, 1, -4] }
def demoCsc : CS Int := { nMajor := 3, nMinor := 2, indptr := [0, 1, 1, 3], indices := [0, 0, 1], data := [1, 2, -4] }

example : SrcWF demoSrc := ⟨by decide +kernel, by decide +kernel, by decide +kernel, by decide +kernel, by decide +kernel, by decide +kernel⟩
example : mdDomain demoSrc.omd = true := by decide +kernel
example : mdDomain demoSrc.smd = true := by decide +kernel
example : demoCsr.wfb = true ∧ demoCsc.wfb = true := by decide +kernel
example : demoCsr.toDense = demoSrc.rows ∧ demoCsc.toDense = transposeGrid 3 demoSrc.rows := by decide +kernel
example : holds Utf8.ident demoSrc "g" (some "2020-01-02T03:04:05")
    (written Utf8.ident DateC.ident demoSrc "g" (some "2020-01-02T03:04:05") "" demoCsr demoCsc) = true := by
  decide +kernel
/-- and the predicate is not trivially true: the row view's indices in the sample group are refused -/
example : holds Utf8.ident demoSrc "g" none
    { written Utf8.ident DateC.ident demoSrc "g" (some "d") "" demoCsr demoCsc with
      samp := some (axTree Utf8.ident demoSrc.samp demoSrc.smd [] { demoCsc with indices := [2, 0, 2] }) } = false := by
  decide +kernel

/-- and a file that keeps the table's own generated-by instead of the argument is refused -/
example : holds Utf8.ident demoSrc "argument" none
    (written Utf8.ident DateC.ident demoSrc "what the table carried" (some "d") "" demoCsr demoCsc) = false := by
  decide +kernel

end Biom.C04
