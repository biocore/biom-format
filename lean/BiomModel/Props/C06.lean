/-
  C06 — property theorems.  Every statement is for EVERY table (any shape, any values of any type
  `α`, any metadata), every requested order / renaming / other table; the only hypotheses are the
  decidable domain conditions (`valid`: rectangular, one metadata entry per ID, distinct IDs).
-/
import BiomModel.Lemmas.C06

namespace Biom.C06

variable {α : Type}

/-! ### sort_order / sort -/

theorem sortOrder_ok_inv {t r : Table α} {order : List Id} {ax : Axis}
    (h : sortOrder t order ax = .ok r) :
    (∀ i ∈ order, i ∈ t.ids ax) ∧ r = norm (reordered t order ax) := by
  rw [sortOrder_eq] at h
  by_cases hk : ∀ i ∈ order, i ∈ t.ids ax
  · exact ⟨hk, ctor_ok_eq ((if_pos hk).symm.trans h)⟩
  · rw [if_neg hk] at h
    cases h

/-- "the resulting order is exactly the requested one", and the other axis is untouched -/
theorem sortOrder_ids {t r : Table α} {order : List Id} {ax : Axis} (h : sortOrder t order ax = .ok r) :
    r.ids ax = order ∧ r.ids ax.other = t.ids ax.other := by
  obtain ⟨_, rfl⟩ := sortOrder_ok_inv h
  exact ⟨(norm_ids _ _).trans (reordered_ids_self _ _ _), (norm_ids _ _).trans (reordered_ids_other _ _ _)⟩

/-- everything `sort_order` returns is kept by ID: values of all ID pairs, metadata of all IDs -/
theorem sortOrder_kept {t r : Table α} {order : List Id} {ax : Axis} (hw : t.WF)
    (h : sortOrder t order ax = .ok r) : Kept t r := by
  obtain ⟨hk, rfl⟩ := sortOrder_ok_inv h
  exact (reordered_kept hw hk).norm

/-- "the value stored for every (observation ID, sample ID) pair is unchanged" -/
theorem sortOrder_cell {t r : Table α} {order : List Id} {ax : Axis} (hw : t.WF)
    (h : sortOrder t order ax = .ok r) {o s : Id} (ho : o ∈ r.obs) (hs : s ∈ r.samp) :
    r.cell? o s = t.cell? o s ∧ (r.cell? o s).isSome = true :=
  ⟨((sortOrder_kept hw h).cells o ho s hs).2, ((sortOrder_kept hw h).cells o ho s hs).1⟩

/-- the same, in the words of reordering samples: every observation × every ID of `order` -/
theorem sortOrder_cell_samples {t r : Table α} {order : List Id} (hw : t.WF)
    (h : sortOrder t order .samp = .ok r) {o s : Id} (ho : o ∈ t.obs) (hs : s ∈ order) :
    r.cell? o s = t.cell? o s := by
  have hi : r.samp = order ∧ r.obs = t.obs := sortOrder_ids h
  exact (sortOrder_cell hw h (hi.2 ▸ ho) (hi.1 ▸ hs)).1

theorem sortOrder_cell_observations {t r : Table α} {order : List Id} (hw : t.WF)
    (h : sortOrder t order .obs = .ok r) {o s : Id} (ho : o ∈ order) (hs : s ∈ t.samp) :
    r.cell? o s = t.cell? o s := by
  have hi : r.obs = order ∧ r.samp = t.samp := sortOrder_ids h
  exact (sortOrder_cell hw h (hi.1 ▸ ho) (hi.2 ▸ hs)).1

/-- "each ID keeps its own metadata" (on the reordered axis and on the other one) -/
theorem sortOrder_md {t r : Table α} {order : List Id} {ax : Axis} (hw : t.WF)
    (h : sortOrder t order ax = .ok r) (ax' : Axis) {id : Id} (hid : id ∈ r.ids ax') :
    mdE r ax' id = mdE t ax' id :=
  (sortOrder_kept hw h).md ax' id hid

/-- "no ID is gained, lost or duplicated": a permutation of the axis is always accepted, and the
result's IDs are that permutation -/
theorem sortOrder_perm {t : Table α} {order : List Id} {ax : Axis} (hv : Valid t)
    (hp : order.Perm (t.ids ax)) :
    ∃ r, sortOrder t order ax = .ok r ∧ r.ids ax = order ∧ (r.ids ax).Nodup ∧ (r.ids ax).Perm (t.ids ax) ∧
      r.ids ax.other = t.ids ax.other := by
  have hno : order.Nodup := hp.nodup_iff.mpr (ids_nodup hv ax)
  have hok := sortOrder_ok hv (fun i hi => hp.mem_iff.mp hi) hno
  obtain ⟨e, e'⟩ := sortOrder_ids hok
  exact ⟨_, hok, e, e.symm ▸ hno, e.symm ▸ hp, e'⟩

theorem sortOrder_refuses_unknown {t : Table α} {order : List Id} {ax : Axis}
    (h : ∃ i ∈ order, i ∉ t.ids ax) : sortOrder t order ax = .error .unknownId :=
  (sortOrder_eq t order ax).trans (if_neg fun hk => let ⟨i, hi, hn⟩ := h; hn (hk i hi))

/-- a requested order that names an ID twice is refused (on a non-empty table) -/
theorem sortOrder_refuses_duplicate {t : Table α} {order : List Id} {ax : Axis}
    (hk : ∀ i ∈ order, i ∈ t.ids ax) (hd : ¬ order.Nodup) (hne : t.ids ax.other ≠ []) :
    sortOrder t order ax = .error .tableException := by
  rw [sortOrder_known hk]
  apply ctor_of_err
  have hone : order ≠ [] := fun e => hd (e ▸ List.nodup_nil)
  cases ax with
  | obs => exact errcheck_dup hone hne (fun h => hd h.1)
  | samp => exact errcheck_dup hne hone (fun h => hd h.2)

/-- `sort` is `sort_order` by whatever the user function returned, for every user function -/
theorem sort_is_sortF (t : Table α) (f : List Id → List Id) (ax : Axis) :
    sort t (f (t.ids ax)) ax = sortOrder t (f (t.ids ax)) ax := rfl

theorem md_roundtrip {ids order : List Id} {md : Option (List Md)}
    (hl : ∀ m, md = some m → ids.length = m.length) (hn : ids.Nodup)
    (h1 : ∀ i ∈ order, i ∈ ids) (h2 : ∀ i ∈ ids, i ∈ order) :
    normMd ((normMd (md.map (fun m => order.filterMap (lookupBy ids m)))).map
      (fun m => ids.filterMap (lookupBy order m))) = normMd md := by
  cases md with
  | none => rfl
  | some m =>
    have hF := reorder_inverse (hl m rfl) hn h1 h2
    simp only [Option.map_some]
    by_cases hall : (order.filterMap (lookupBy ids m)).all (·.isEmpty) = true
    · have hm : m.all (·.isEmpty) = true := by
        rw [List.all_eq_true]
        intro x hx
        rw [← hF] at hx
        obtain ⟨i, _, hi⟩ := List.mem_filterMap.mp hx
        exact List.all_eq_true.mp hall x (lookupBy_mem _ _ _ _ hi)
      simp [normMd, hall, hm]
    · simp only [normMd, hall, Bool.false_eq_true, if_false, Option.map_some, hF]

/-- "applying a permutation and then its inverse restores the original IDs, order, values and
metadata": reordering by a permutation and then by the original order gives the table back -/
theorem sortOrder_inverse {t r : Table α} {order : List Id} {ax : Axis} (hv : Valid t)
    (hp : order.Perm (t.ids ax)) (h : sortOrder t order ax = .ok r) :
    sortOrder r (t.ids ax) ax = .ok (norm t) := by
  obtain ⟨hk, rfl⟩ := sortOrder_ok_inv h
  have hn := ids_nodup hv ax
  have hno : order.Nodup := hp.nodup_iff.mpr hn
  have hk2 : ∀ i ∈ t.ids ax, i ∈ order := fun i hi => hp.mem_iff.mpr hi
  have hv1 : Valid (norm (reordered t order ax)) := norm_valid (reordered_valid hv hk hno)
  rw [sortOrder_ok hv1 (fun i hi => by rw [norm_ids, reordered_ids_self]; exact hk2 i hi) hn]
  congr 1
  obtain ⟨w1, w2, w3, w4⟩ := hv.wf
  cases ax with
  | samp =>
    have hrows : (t.rows.map (fun r => order.filterMap (lookupBy t.samp r))).map
        (fun r => t.samp.filterMap (lookupBy order r)) = t.rows := by
      rw [List.map_map]
      exact (List.map_congr_left fun r hr => reorder_inverse (w2 r hr).symm hv.sampNodup hk hk2).trans
        (List.map_id _)
    have hmd := md_roundtrip (md := t.smd) (fun m hm => (w4 m hm).symm) hv.sampNodup hk hk2
    simp only [norm, reordered, Table.ids, hrows, hmd, normMd_idem]
  | obs =>
    have hrows : t.obs.filterMap (lookupBy order (order.filterMap (lookupBy t.obs t.rows))) = t.rows :=
      reorder_inverse w1.symm hv.obsNodup hk hk2
    have hmd := md_roundtrip (md := t.omd) (fun m hm => (w3 m hm).symm) hv.obsNodup hk hk2
    simp only [norm, reordered, Table.ids, hrows, hmd, normMd_idem]

/-- for a table as the constructor leaves it (metadata not all-empty) the round trip is the identity -/
theorem sortOrder_inverse_self {t r : Table α} {order : List Id} {ax : Axis} (hv : Valid t)
    (hnorm : norm t = t) (hp : order.Perm (t.ids ax)) (h : sortOrder t order ax = .ok r) :
    sortOrder r (t.ids ax) ax = .ok t := by
  rw [sortOrder_inverse hv hp h, hnorm]

/-! ### transpose, copy -/

theorem transposeT_ok_inv {t r : Table α} (h : transposeT t = .ok r) : r = norm (transposed t) :=
  ctor_ok_eq h

/-- `cell tᵀ s o = cell t o s` for every pair of IDs -/
theorem transpose_cell {t r : Table α} (hw : t.WF) (h : transposeT t = .ok r) (o s : Id) :
    r.cell? s o = t.cell? o s := by
  rw [transposeT_ok_inv h, norm_cell?, transposed_cell hw]

/-- the two ID lists change places, in order -/
theorem transpose_ids {t r : Table α} (h : transposeT t = .ok r) : r.obs = t.samp ∧ r.samp = t.obs := by
  rw [transposeT_ok_inv h]; exact ⟨rfl, rfl⟩

/-- the metadata change places with the IDs: each ID keeps its entry -/
theorem transpose_md {t r : Table α} (h : transposeT t = .ok r) (ax : Axis) (id : Id) :
    mdE r ax.other id = mdE t ax id := by
  rw [transposeT_ok_inv h, norm_mdE, transposed_mdE]

theorem transpose_accepts {t : Table α} (hv : Valid t) : ∃ r, transposeT t = .ok r ∧ Valid r :=
  ⟨_, transposeT_ok hv, norm_valid (transposed_valid hv)⟩

/-- "transposing twice restores the original IDs, order, values and metadata" (the table type is
not carried by `transpose`) -/
theorem transpose_transpose {t r : Table α} (hv : Valid t) (h : transposeT t = .ok r) :
    transposeT r = .ok { norm t with ttype := none } := by
  rw [transposeT_ok_inv h, transposeT_ok (norm_valid (transposed_valid hv)),
    transposed_norm_transposed hv.wf]

/-- `copy` returns the same content -/
theorem copy_eq {t : Table α} (hv : Valid t) : copy t = .ok (norm t) :=
  ctor_of_ok (errcheck_ok_of_nodup hv.obsNodup hv.sampNodup)

theorem copy_eq_self {t : Table α} (hv : Valid t) (hnorm : norm t = t) : copy t = .ok t := by
  rw [copy_eq hv, hnorm]

theorem copy_kept {t : Table α} (hv : Valid t) : Kept t (norm t) := (Kept.refl hv.wf).norm

/-! ### update_ids -/

/-- the renaming function of a call: `id_map.get(old, old)` -/
def rho (m : List (Id × Id)) (i : Id) : Id := (m.lookup i).getD i

theorem target_eq_map (m : List (Id × Id)) (ids : List Id) : target m ids = ids.map (rho m) := rfl

theorem errcheck_setIds {t : Table α} (hv : Valid t) {ax : Axis} {ids' : List Id} (hn : ids'.Nodup) :
    errcheck (setIds t ax ids') = .ok () := by
  cases ax with
  | obs => exact errcheck_ok_of_nodup hn hv.sampNodup
  | samp => exact errcheck_ok_of_nodup hv.obsNodup hn

/-- the allocated width never truncates: for every id_map (the empty one included) the loop yields
exactly `id_map.get(old, old)` for every ID, or the strict-mode refusal -/
theorem updateIds_width_fits (m : List (Id × Id)) (ids : List Id) (strict : Bool)
    (hk : strict = true → ∀ i ∈ ids, (m.lookup i).isSome = true) :
    relabel m strict (idWidth m ids strict) ids = .ok (target m ids) :=
  relabel_ok (idWidth_ok m ids strict).1 (idWidth_ok m ids strict).2 hk

theorem covered_or_missing (m : List (Id × Id)) (ids : List Id) (strict : Bool) :
    (strict = true → ∀ i ∈ ids, (m.lookup i).isSome = true) ∨
      (strict = true ∧ ∃ i ∈ ids, m.lookup i = none) := by
  by_cases h : ∃ i ∈ ids, m.lookup i = none
  · cases strict
    · exact .inl (fun hs => nomatch hs)
    · exact .inr ⟨rfl, h⟩
  · refine .inl fun _ i hi => ?_
    cases hl : m.lookup i
    · exact absurd ⟨i, hi, hl⟩ h
    · rfl

/-- `update_ids` once the loop has produced the new names: in place they go into the receiver (a duplicate is
refused before anything is touched); otherwise into a copy, which the constructor's check accepts or refuses -/
theorem updateIds_of_covered {t : Table α} (hv : Valid t) {m : List (Id × Id)} {ax : Axis} {strict : Bool}
    (inplace : Bool) (hk : strict = true → ∀ i ∈ t.ids ax, (m.lookup i).isSome = true) :
    updateIds t m ax strict inplace =
      if inplace then
        if (target m (t.ids ax)).Nodup then
          { result := .ok (setIds t ax (target m (t.ids ax))), after := setIds t ax (target m (t.ids ax)), same := true }
        else { result := .error .tableException, after := t }
      else
        { result := (errcheck (setIds (norm t) ax (target m (t.ids ax)))).map
            fun _ => setIds (norm t) ax (target m (t.ids ax)), after := t } := by
  unfold updateIds
  rw [updateIds_width_fits m (t.ids ax) strict hk]
  cases inplace with
  | true =>
    by_cases hinj : (target m (t.ids ax)).Nodup
    · simp only [if_true, if_pos hinj, (distinct_iff _).mpr hinj, Bool.not_true, Bool.false_eq_true, if_false,
        errcheck_setIds hv hinj]
    · simp only [if_true, if_neg hinj, distinct_false hinj, Bool.not_false]
  | false =>
    simp only [Bool.false_eq_true, if_false, copy_eq hv]
    cases errcheck (setIds (norm t) ax (target m (t.ids ax))) <;> rfl

/-- complete description of an accepted call: for an id_map that (when strict) covers the axis and
whose result has no duplicate, the receiver (or its copy) gets the relabelled IDs and nothing else changes -/
theorem updateIds_ok {t : Table α} (hv : Valid t) {m : List (Id × Id)} {ax : Axis} {strict inplace : Bool}
    (hk : strict = true → ∀ i ∈ t.ids ax, (m.lookup i).isSome = true)
    (hinj : (target m (t.ids ax)).Nodup) :
    updateIds t m ax strict inplace =
      (if inplace then
        { result := .ok (setIds t ax (target m (t.ids ax))), after := setIds t ax (target m (t.ids ax)), same := true }
       else { result := .ok (setIds (norm t) ax (target m (t.ids ax))), after := t }) := by
  rw [updateIds_of_covered hv inplace hk, if_pos hinj, errcheck_setIds (norm_valid hv) hinj]
  rfl

theorem setIds_obs_relabelled {t : Table α} (hv : Valid t) {m : List (Id × Id)}
    (hinj : (t.obs.map (rho m)).Nodup) :
    (∀ o ∈ t.obs, ∀ s, (setIds t .obs (t.obs.map (rho m))).cell? (rho m o) s = t.cell? o s) ∧
    (∀ o ∈ t.obs, mdE (setIds t .obs (t.obs.map (rho m))) .obs (rho m o) = mdE t .obs o) ∧
    ∀ s, mdE (setIds t .obs (t.obs.map (rho m))) .samp s = mdE t .samp s :=
  ⟨fun _ ho s => setIds_cell_obs hv.obsNodup hinj (mem_zip_map _ ho) s,
   fun _ ho => setIds_mdE_self (ax := .obs) hv.obsNodup hinj (mem_zip_map _ ho), fun _ => rfl⟩

theorem setIds_samp_relabelled {t : Table α} (hv : Valid t) {m : List (Id × Id)}
    (hinj : (t.samp.map (rho m)).Nodup) :
    (∀ s ∈ t.samp, ∀ o, (setIds t .samp (t.samp.map (rho m))).cell? o (rho m s) = t.cell? o s) ∧
    (∀ s ∈ t.samp, mdE (setIds t .samp (t.samp.map (rho m))) .samp (rho m s) = mdE t .samp s) ∧
    ∀ o, mdE (setIds t .samp (t.samp.map (rho m))) .obs o = mdE t .obs o :=
  ⟨fun _ hs o => setIds_cell_samp hv.sampNodup hinj (mem_zip_map _ hs) o,
   fun _ hs => setIds_mdE_self (ax := .samp) hv.sampNodup hinj (mem_zip_map _ hs), fun _ => rfl⟩

/-- "the value stored for every (observation ID, sample ID) pair is unchanged modulo the renaming":
renaming observations by an injective `ρ` (total, or partial with `strict=False`; IDs may get longer
or shorter) gives `cell t' (ρ o) s = cell t o s` -/
theorem updateIds_cell_obs {t : Table α} (hv : Valid t) {m : List (Id × Id)} {strict inplace : Bool}
    (hk : strict = true → ∀ i ∈ t.obs, (m.lookup i).isSome = true)
    (hinj : (t.obs.map (rho m)).Nodup) :
    ∃ r, (updateIds t m .obs strict inplace).result = .ok r ∧ r.obs = t.obs.map (rho m) ∧ r.samp = t.samp ∧
      (∀ o ∈ t.obs, ∀ s, r.cell? (rho m o) s = t.cell? o s) ∧
      (∀ o ∈ t.obs, mdE r .obs (rho m o) = mdE t .obs o) ∧ (∀ s, mdE r .samp s = mdE t .samp s) := by
  rw [updateIds_ok hv (ax := .obs) hk hinj]
  cases inplace with
  | true => exact ⟨_, rfl, rfl, rfl, setIds_obs_relabelled hv hinj⟩
  | false =>
    -- the copy is `norm t`, which has the cells of `t` and, entry by entry, its metadata
    have h := setIds_obs_relabelled (norm_valid hv) (m := m) hinj
    simp only [norm_mdE] at h
    exact ⟨_, rfl, rfl, rfl, h⟩

/-- the same for renaming samples: `cell t' o (ρ s) = cell t o s` -/
theorem updateIds_cell_samp {t : Table α} (hv : Valid t) {m : List (Id × Id)} {strict inplace : Bool}
    (hk : strict = true → ∀ i ∈ t.samp, (m.lookup i).isSome = true)
    (hinj : (t.samp.map (rho m)).Nodup) :
    ∃ r, (updateIds t m .samp strict inplace).result = .ok r ∧ r.samp = t.samp.map (rho m) ∧ r.obs = t.obs ∧
      (∀ s ∈ t.samp, ∀ o, r.cell? o (rho m s) = t.cell? o s) ∧
      (∀ s ∈ t.samp, mdE r .samp (rho m s) = mdE t .samp s) ∧ (∀ o, mdE r .obs o = mdE t .obs o) := by
  rw [updateIds_ok hv (ax := .samp) hk hinj]
  cases inplace with
  | true => exact ⟨_, rfl, rfl, rfl, setIds_samp_relabelled hv hinj⟩
  | false =>
    have h := setIds_samp_relabelled (norm_valid hv) (m := m) hinj
    simp only [norm_mdE] at h
    exact ⟨_, rfl, rfl, rfl, h⟩

/-- with `strict=True` an ID of the axis that is not a key of `id_map` is refused and the receiver
is left as it was -/
theorem updateIds_refuses_missing_strict {t : Table α} {m : List (Id × Id)} {ax : Axis} {inplace : Bool}
    (h : ∃ i ∈ t.ids ax, m.lookup i = none) :
    (updateIds t m ax true inplace).result = .error .tableException ∧
    (updateIds t m ax true inplace).after = t := by
  unfold updateIds
  rw [relabel_missing h]
  exact ⟨rfl, rfl⟩

/-- a renaming whose result would carry an ID twice is refused and the receiver is left as it was
(`inplace`, or any non-empty table) -/
theorem updateIds_refuses_noninjective {t : Table α} (hv : Valid t) {m : List (Id × Id)} {ax : Axis}
    {strict inplace : Bool}
    (hk : strict = true → ∀ i ∈ t.ids ax, (m.lookup i).isSome = true)
    (hdup : ¬ (target m (t.ids ax)).Nodup) (hne : inplace = true ∨ t.ids ax.other ≠ []) :
    (updateIds t m ax strict inplace).result = .error .tableException ∧
    (updateIds t m ax strict inplace).after = t := by
  rw [updateIds_of_covered hv inplace hk]
  cases inplace with
  | true => rw [if_pos rfl, if_neg hdup]; exact ⟨rfl, rfl⟩
  | false =>
    have hne' : t.ids ax.other ≠ [] := hne.resolve_left (fun h => nomatch h)
    have htne : target m (t.ids ax) ≠ [] := fun e => hdup (e ▸ List.nodup_nil)
    have herr : errcheck (setIds (norm t) ax (target m (t.ids ax))) = .error .tableException := by
      cases ax with
      | obs => exact errcheck_dup htne hne' (fun h => hdup h.1)
      | samp => exact errcheck_dup hne' htne (fun h => hdup h.2)
    rw [herr]; exact ⟨rfl, rfl⟩

/-- whatever the reason of a refusal, the receiver is unchanged -/
theorem updateIds_refusal_leaves_receiver {t : Table α} (hv : Valid t) (m : List (Id × Id)) (ax : Axis)
    (strict inplace : Bool) (e : Err) (h : (updateIds t m ax strict inplace).result = .error e) :
    (updateIds t m ax strict inplace).after = t := by
  rcases covered_or_missing m (t.ids ax) strict with hk | ⟨rfl, hmiss⟩
  · -- only the in-place write changes the receiver, and that call is accepted
    rw [updateIds_of_covered hv inplace hk] at h ⊢
    cases inplace with
    | false => rfl
    | true =>
      by_cases hinj : (target m (t.ids ax)).Nodup
      · rw [if_pos rfl, if_pos hinj] at h; cases h
      · rw [if_pos rfl, if_neg hinj]
  · exact (updateIds_refuses_missing_strict hmiss).2

/-- an empty `id_map` with `strict=False` renames nothing: the receiver comes back as it is -/
theorem updateIds_emptyMap_keeps {t : Table α} (hv : Valid t) (ax : Axis) :
    (updateIds t [] ax false true).result = .ok t ∧ (updateIds t [] ax false true).after = t ∧
    (updateIds t [] ax false false).result = .ok (norm t) ∧ (updateIds t [] ax false false).after = t := by
  have ht : target [] (t.ids ax) = t.ids ax := List.map_id _
  have hinj : (target [] (t.ids ax)).Nodup := ht.symm ▸ ids_nodup hv ax
  have hk : false = true → ∀ i ∈ t.ids ax, (([] : List (Id × Id)).lookup i).isSome = true := fun h => nomatch h
  rw [updateIds_ok hv (inplace := true) hk hinj, updateIds_ok hv (inplace := false) hk hinj, ht]
  cases ax <;> exact ⟨rfl, rfl, rfl, rfl⟩

/-! ### align_to -/

theorem sameSet_iff (a b : List Id) : sameSet a b = true ↔ (∀ i ∈ a, i ∈ b) ∧ (∀ i ∈ b, i ∈ a) := by
  simp only [sameSet, Bool.and_eq_true, List.all_eq_true, List.contains_iff_mem]

theorem otherIds_nodup {oObs oSamp : List Id} (ho : oObs.Nodup) (hs : oSamp.Nodup) (a : Axis) :
    (otherIds oObs oSamp a).Nodup := by cases a; exact ho; exact hs

/-- sorting a list of distinct alignable axes one after the other: each of them ends in the other
table's order, the remaining axis is untouched, and everything is kept by ID -/
theorem sortAll_spec {oObs oSamp : List Id} (ho : oObs.Nodup) (hs : oSamp.Nodup) (axes : List Axis)
    (hax : axes.Nodup) {t : Table α} (hv : Valid t)
    (hal : ∀ a ∈ axes, sameSet (t.ids a) (otherIds oObs oSamp a) = true) :
    ∃ r, sortAll oObs oSamp axes t = .ok r ∧ Kept t r ∧ Valid r ∧
      ∀ a, r.ids a = if a ∈ axes then otherIds oObs oSamp a else t.ids a := by
  induction axes generalizing t with
  | nil => exact ⟨t, rfl, Kept.refl hv.wf, hv, fun _ => rfl⟩
  | cons a rest ih =>
    obtain ⟨ha, hrest⟩ := List.nodup_cons.mp hax
    have hk : ∀ i ∈ otherIds oObs oSamp a, i ∈ t.ids a := ((sameSet_iff _ _).mp (hal a List.mem_cons_self)).2
    have hn := otherIds_nodup ho hs a
    -- the table after the first step; every other axis still has the IDs of `t`
    have hids1 : ∀ b, (norm (reordered t (otherIds oObs oSamp a) a)).ids b =
        if b = a then otherIds oObs oSamp a else t.ids b :=
      fun b => (norm_ids _ b).trans (reordered_ids t _ a b)
    have hal1 : ∀ b ∈ rest, sameSet ((norm (reordered t (otherIds oObs oSamp a) a)).ids b)
        (otherIds oObs oSamp b) = true := fun b hb => by
      rw [hids1 b, if_neg (fun e : b = a => ha (e ▸ hb))]
      exact hal b (List.mem_cons_of_mem _ hb)
    obtain ⟨r, hr, hkept, hvr, hids⟩ := ih hrest (norm_valid (reordered_valid hv hk hn)) hal1
    refine ⟨r, ?_, Kept.trans (reordered_kept hv.wf hk).norm hkept fun b i hi => ?_, hvr, fun b => ?_⟩
    · rw [sortAll, sortOrder_ok hv hk hn]; exact hr
    · rw [hids b] at hi
      by_cases hb : b ∈ rest
      · rw [if_pos hb] at hi
        exact ((sameSet_iff _ _).mp (hal1 b hb)).2 i hi
      · rwa [if_neg hb] at hi
    · rw [hids b, hids1 b]
      by_cases e : b = a
      · rw [e, if_pos rfl, if_pos List.mem_cons_self]; exact ite_self _
      · simp only [List.mem_cons, e, false_or, if_false]

/-- the selection of one alignable axis, in the form `alignAxes_spec` asks for -/
theorem alignAxes_single {t : Table α} {oObs oSamp : List Id} (a : Axis)
    (h : sameSet (t.ids a) (otherIds oObs oSamp a) = true) :
    ∃ axes, (.ok [a] : Except Err (List Axis)) = .ok axes ∧ axes.Nodup ∧ (∀ b, b ∈ axes ↔ b ∈ [a]) ∧
      ∀ b ∈ axes, sameSet (t.ids b) (otherIds oObs oSamp b) = true :=
  ⟨[a], rfl, List.nodup_cons.mpr ⟨List.not_mem_nil, List.nodup_nil⟩, fun _ => Iff.rfl,
    fun _ hb => List.mem_singleton.mp hb ▸ h⟩

/-- the axes `align_to` sorts are exactly the axes the property expects to be aligned, and it
refuses with `DisjointIDError` / `UnknownAxisError` exactly when there is none -/
theorem alignAxes_spec (t : Table α) (oObs oSamp : List Id) (ax : AAxis) :
    match alignedAxes t oObs oSamp ax with
    | some want => ∃ axes, alignAxes t oObs oSamp ax = .ok axes ∧ axes.Nodup ∧ (∀ a, a ∈ axes ↔ a ∈ want) ∧
        ∀ a ∈ axes, sameSet (t.ids a) (otherIds oObs oSamp a) = true
    | none => alignAxes t oObs oSamp ax = .error (if ax = .unknown then .unknownAxis else .disjointId) := by
  unfold alignedAxes alignAxes
  cases ax with
  | unknown => rfl
  | sample =>
    cases hS : sameSet t.samp oSamp
    · rfl
    · exact alignAxes_single .samp hS
  | observation =>
    cases hO : sameSet t.obs oObs
    · rfl
    · exact alignAxes_single .obs hO
  | both =>
    cases hO : sameSet t.obs oObs <;> cases hS : sameSet t.samp oSamp
    · rfl
    · rfl
    · rfl
    · exact ⟨[.obs, .samp], rfl, by decide, fun _ => Iff.rfl, fun a _ => by cases a; exact hO; exact hS⟩
  | detect =>
    -- the library sorts samples first, the property lists observations first: the same set of axes
    cases hO : sameSet t.obs oObs <;> cases hS : sameSet t.samp oSamp
    · rfl
    · exact alignAxes_single .samp hS
    · exact alignAxes_single .obs hO
    · exact ⟨[.samp, .obs], rfl, by decide, fun a => by cases a <;> decide,
        fun a _ => by cases a; exact hO; exact hS⟩

/-- "the resulting order is exactly the requested one" for `align_to`: every aligned axis ends in
the other table's order, the other axis keeps its own, values and metadata are kept by ID -/
theorem alignTo_order {t : Table α} (hv : Valid t) {oObs oSamp : List Id} (ho : oObs.Nodup)
    (hs : oSamp.Nodup) {ax : AAxis} {want : List Axis} (hw : alignedAxes t oObs oSamp ax = some want) :
    ∃ r, alignTo t oObs oSamp ax = .ok r ∧ Kept t r ∧ Valid r ∧
      ∀ a, r.ids a = if a ∈ want then otherIds oObs oSamp a else t.ids a := by
  have h := alignAxes_spec t oObs oSamp ax
  rw [hw] at h
  obtain ⟨axes, h1, h2, h3, h4⟩ := h
  obtain ⟨r, hr, hk, hvr, hids⟩ := sortAll_spec ho hs axes h2 hv h4
  refine ⟨r, ?_, hk, hvr, ?_⟩
  · simp only [alignTo, h1, hr]
  · intro a
    rw [hids a]
    by_cases ha : a ∈ axes
    · rw [if_pos ha, if_pos ((h3 a).mp ha)]
    · rw [if_neg ha, if_neg (fun hc => ha ((h3 a).mpr hc))]

/-- the `DisjointIDError` cases: the requested axis (both axes for `both`, every axis for `detect`)
does not carry the same ID set in the two tables -/
theorem alignTo_refuses_disjoint {t : Table α} {oObs oSamp : List Id} {ax : AAxis}
    (hw : alignedAxes t oObs oSamp ax = none) (hax : ax ≠ .unknown) :
    alignTo t oObs oSamp ax = .error .disjointId := by
  have h := alignAxes_spec t oObs oSamp ax
  rw [hw] at h
  simp only [alignTo, h, if_neg hax]

theorem alignTo_refuses_unknown_axis (t : Table α) (oObs oSamp : List Id) :
    alignTo t oObs oSamp .unknown = .error .unknownAxis := rfl

/-! ### the declarative predicate holds of the model -/

section ModelHolds
variable [DecidableEq α]

/-- the clause lists' test for an unknown ID, read as a statement -/
theorem unknown_eq_false_iff {ids order : List Id} :
    order.any (fun i => !ids.contains i) = false ↔ ∀ i ∈ order, i ∈ ids := by
  simp only [List.any_eq_false, Bool.not_eq_true', Bool.not_eq_false, List.contains_iff_mem]

theorem isEmpty_false {l : List Id} (h : l ≠ []) : l.isEmpty = false := List.isEmpty_eq_false_iff.mpr h

theorem sortOrderClauses_hold {t : Table α} (hv : Valid t) (order : List Id) (ax : Axis)
    (sa : Option (List Id)) :
    (sortOrderClauses t order ax { result := sortOrder t order ax, after := t, sortArg := sa }).all (·.2) = true := by
  simp only [sortOrderClauses, (valid_iff t).mpr hv, List.all_cons, List.all_nil, decide_true, Bool.not_false,
    Bool.and_true, Bool.true_and]
  by_cases hk : ∀ i ∈ order, i ∈ t.ids ax
  · rw [unknown_eq_false_iff.mpr hk]
    by_cases hn : order.Nodup
    · have hkept : keptById t (norm (reordered t order ax)) = true :=
        (keptById_iff _ _).mpr (reordered_kept hv.wf hk).norm
      simp only [sortOrder_ok hv hk hn, (distinct_iff _).mpr hn, hkept, isOk, onOk, norm_ids,
        reordered_ids_self, reordered_ids_other, decide_true, Bool.not_true, Bool.not_false, Bool.and_true,
        Bool.or_true, Bool.true_or, Bool.false_or, Bool.not_or_self]
    · rw [distinct_false hn]
      by_cases he : t.ids ax.other = []
      · -- an empty table is never checked for duplicates: whatever the constructor does, the clauses are masked
        simp only [he, List.isEmpty_nil, Bool.not_false, Bool.and_true, Bool.or_true, Bool.true_or, Bool.false_or]
      · simp only [sortOrder_refuses_duplicate hk hn he, isErr, onOk, decide_true, Bool.not_false,
          Bool.and_true, Bool.or_true, Bool.true_or, Bool.false_or]
  · simp only [(sortOrder_eq t order ax).trans (if_neg hk),
      Bool.of_not_eq_false (mt unknown_eq_false_iff.mp hk), isErr, onOk, decide_true, Bool.not_true,
      Bool.and_true, Bool.or_true, Bool.true_or]

theorem sortOrder_holds {t : Table α} (hv : Valid t) (order : List Id) (ax : Axis) :
    holds t (.sortOrder order ax) (run t (.sortOrder order ax)) = true :=
  sortOrderClauses_hold hv order ax none

theorem sort_holds {t : Table α} (hv : Valid t) (sorted : List Id) (ax : Axis) :
    holds t (.sort sorted ax) (run t (.sort sorted ax)) = true := by
  have := sortOrderClauses_hold hv sorted ax (some (t.ids ax))
  simp only [holds, clauses, run, sort, List.all_cons, this, Bool.and_true, decide_eq_true_eq]

theorem transpose_holds {t : Table α} (hv : Valid t) :
    holds t .transpose (run t .transpose) = true := by
  have hwf : (norm (transposed t)).wfb = true :=
    (Layer.table_wfb_iff _).mpr (norm_WF (transposed_WF hv.wf))
  simp only [holds, clauses, run, transposeClauses, transposeT_ok hv, (valid_iff t).mpr hv, isOk, onOk, hwf,
    norm_obs, norm_samp, norm_cell?, norm_mdE, transposed_cell hv.wf,
    show (transposed t).obs = t.samp from rfl, show (transposed t).samp = t.obs from rfl,
    show ∀ id, mdE (transposed t) .samp id = mdE t .obs id from fun _ => rfl,
    show ∀ id, mdE (transposed t) .obs id = mdE t .samp id from fun _ => rfl,
    List.all_cons, List.all_nil, List.all_eq_true, Bool.and_eq_true, Bool.and_true, decide_true, Bool.not_false,
    and_true, true_and, implies_true]
  exact fun o ho s hs => cell_isSome hv.wf ho hs

theorem copy_holds {t : Table α} (hv : Valid t) : holds t .copy (run t .copy) = true := by
  have hkept : keptById t (norm t) = true := (keptById_iff _ _).mpr (copy_kept hv)
  simp only [holds, clauses, run, copyClauses, copy_eq hv, (valid_iff t).mpr hv, isOk, onOk, hkept, norm_obs,
    norm_samp, norm_ttype, List.all_cons, List.all_nil, Bool.and_true, decide_true, Bool.not_false]

theorem alignTo_holds {t : Table α} (hv : Valid t) {oObs oSamp : List Id} (ho : oObs.Nodup) (hs : oSamp.Nodup)
    (ax : AAxis) : holds t (.alignTo oObs oSamp ax) (run t (.alignTo oObs oSamp ax)) = true := by
  simp only [holds, clauses, run, alignToClauses, (valid_iff t).mpr hv, (distinct_iff _).mpr ho,
    (distinct_iff _).mpr hs, List.all_cons, List.all_nil, decide_true, Bool.not_false, Bool.and_true, Bool.true_and]
  cases hw : alignedAxes t oObs oSamp ax with
  | none =>
    by_cases hax : ax = .unknown
    · subst hax
      simp only [alignTo_refuses_unknown_axis, isErr, isOk, onOk, Option.isNone_none, decide_true,
        Bool.not_true, Bool.and_true, Bool.or_true, Bool.true_or]
    · simp only [alignTo_refuses_disjoint hw hax, decide_eq_false hax, isErr, isOk, onOk, Option.isNone_none,
        decide_true, Bool.not_false, Bool.and_true, Bool.or_true, Bool.true_or]
  | some want =>
    have hax : ax ≠ .unknown := fun e => nomatch (e ▸ hw : alignedAxes t oObs oSamp .unknown = some want)
    obtain ⟨r, hres, hk, _, hids⟩ := alignTo_order hv ho hs hw
    have h1 : r.obs = if Axis.obs ∈ want then oObs else t.obs := hids .obs
    have h2 : r.samp = if Axis.samp ∈ want then oSamp else t.samp := hids .samp
    simp only [hres, decide_eq_false hax, (keptById_iff _ _).mpr hk, h1, h2, otherIds, Table.ids,
      List.contains_eq_mem, decide_eq_true_eq, isOk, onOk, Option.isSome_some, decide_true, Bool.not_false,
      Bool.and_true, Bool.or_true, Bool.true_or]

theorem relabelled_setIds {t : Table α} (hv : Valid t) {ax : Axis} {ids' : List Id}
    (hn' : ids'.Nodup) :
    relabelled t (setIds t ax ids') ax ((t.ids ax).zip ids') = true := by
  unfold relabelled
  rw [Bool.and_eq_true]
  constructor
  · rw [List.all_eq_true]
    rintro ⟨old, new⟩ hp
    exact decide_eq_true (setIds_mdE_self (ids_nodup hv ax) hn' hp)
  · cases ax with
    | obs =>
      simp only [List.all_eq_true, Bool.and_eq_true, decide_eq_true_eq]
      rintro ⟨old, new⟩ hp s hs
      have hc := setIds_cell_obs (t := t) hv.obsNodup hn' hp s
      exact ⟨(congrArg Option.isSome hc).trans (cell_isSome hv.wf (List.of_mem_zip hp).1 hs), hc⟩
    | samp =>
      simp only [List.all_eq_true, Bool.and_eq_true, decide_eq_true_eq]
      rintro ⟨old, new⟩ hp o ho
      have hc := setIds_cell_samp (t := t) hv.sampNodup hn' hp o
      exact ⟨(congrArg Option.isSome hc).trans (cell_isSome hv.wf ho (List.of_mem_zip hp).1), hc⟩

theorem relabelled_norm (t r : Table α) (ax : Axis) (ps : List (Id × Id)) :
    relabelled t (norm r) ax ps = relabelled t r ax ps := by
  unfold relabelled
  simp only [norm_mdE]
  rfl

omit [DecidableEq α] in
theorem mdById_setIds_other (t : Table α) (ax : Axis) (ids' : List Id) :
    mdById t (setIds t ax ids') ax.other = true := by
  unfold mdById
  simp only [List.all_eq_true, decide_eq_true_eq]
  intro id _
  exact setIds_mdE_other t ax ids' id

omit [DecidableEq α] in
theorem mdById_norm (t r : Table α) (ax : Axis) : mdById t (norm r) ax = mdById t r ax := by
  unfold mdById
  simp only [norm_mdE, norm_ids]

omit [DecidableEq α] in
theorem missing_false {m : List (Id × Id)} {ids : List Id} {strict : Bool}
    (hk : strict = true → ∀ i ∈ ids, (m.lookup i).isSome = true) :
    (strict && ids.any fun i => (m.lookup i).isNone) = false := by
  cases strict
  · rfl
  · exact List.any_eq_false.mpr fun i hi hn =>
      Option.ne_none_iff_isSome.mpr (hk rfl i hi) (Option.isNone_iff_eq_none.mp hn)

theorem updateIds_holds {t : Table α} (hv : Valid t) (m : List (Id × Id)) (ax : Axis)
    (strict inplace : Bool) :
    holds t (.updateIds m ax strict inplace) (run t (.updateIds m ax strict inplace)) = true := by
  show holds t _ (updateIds t m ax strict inplace) = true
  simp only [holds, clauses, updateIdsClauses, (valid_iff t).mpr hv, List.all_cons, List.all_nil,
    Bool.and_true, Bool.true_and]
  rcases covered_or_missing m (t.ids ax) strict with hk | ⟨rfl, i, hi, hl⟩
  · rw [missing_false hk]
    by_cases hinj : (target m (t.ids ax)).Nodup
    · have hwf := setIds_WF hv.wf (target_length m (t.ids ax))
      have hrel := relabelled_setIds hv (ax := ax) hinj
      have hmdo := mdById_setIds_other t ax (target m (t.ids ax))
      rw [(distinct_iff _).mpr hinj]
      cases inplace with
      | true =>
        simp only [updateIds_ok hv hk hinj, (Layer.table_wfb_iff _).mpr hwf, hrel, hmdo, isOk, onOk,
          setIds_ids_self, setIds_ids_other, if_true, decide_true, Bool.not_true, Bool.not_false,
          Bool.and_self, Bool.or_true, Bool.true_or, Bool.false_or, Bool.false_and]
      | false =>
        simp only [updateIds_ok hv hk hinj, setIds_norm, (Layer.table_wfb_iff _).mpr (norm_WF hwf),
          relabelled_norm, mdById_norm, hrel, hmdo, isOk, onOk, norm_ids, setIds_ids_self, setIds_ids_other,
          Bool.false_eq_true, if_false, decide_true, Bool.not_true, Bool.not_false, Bool.and_self,
          Bool.or_true, Bool.true_or, Bool.false_or, Bool.false_and]
    · rw [distinct_false hinj]
      by_cases hne : inplace = true ∨ t.ids ax.other ≠ []
      · obtain ⟨h1, h2⟩ := updateIds_refuses_noninjective hv hk hinj hne
        simp only [h1, h2, isErr, isOk, onOk, decide_true, Bool.not_true, Bool.not_false, Bool.and_true,
          Bool.or_true, Bool.true_or, Bool.false_or]
      · -- an empty table copied: the duplicate is never looked at, and the clauses do not ask
        obtain ⟨hip, he⟩ := not_or.mp hne
        cases Bool.eq_false_iff.mpr hip
        simp only [updateIds_of_covered hv false hk, Decidable.not_not.mp he, List.isEmpty_nil,
          Bool.false_eq_true, if_false, decide_true, Bool.not_true, Bool.not_false, Bool.and_true,
          Bool.or_true, Bool.true_or, Bool.false_or]
  · obtain ⟨h1, h2⟩ := updateIds_refuses_missing_strict (t := t) (ax := ax) (inplace := inplace) ⟨i, hi, hl⟩
    have hmb : (t.ids ax).any (fun i => (m.lookup i).isNone) = true :=
      List.any_eq_true.mpr ⟨i, hi, Option.isNone_iff_eq_none.mpr hl⟩
    simp only [h1, h2, hmb, isErr, isOk, onOk, decide_true, Bool.not_true, Bool.not_false, Bool.and_true,
      Bool.or_true, Bool.true_or]

/-- domain condition of a call: the other table of `align_to` is a table, so its IDs are distinct -/
def otherValid : Op → Bool
  | .alignTo oObs oSamp _ => distinct oObs && distinct oSamp
  | _ => true

/-- The property predicate is true of what the model computes — for every valid table of every
size, every requested order (permutation or not), every list a sort function may return, every
other table and axis argument, every id_map (empty, total, partial, colliding, longer, shorter),
strict or not, in place or not. -/
theorem model_holds {t : Table α} (hv : valid t = true) (op : Op) (hop : otherValid op = true) :
    holds t op (run t op) = true := by
  have hv' := (valid_iff t).mp hv
  cases op with
  | sortOrder order ax => exact sortOrder_holds hv' order ax
  | sort sorted ax => exact sort_holds hv' sorted ax
  | alignTo oo os ax =>
    simp only [otherValid, Bool.and_eq_true, distinct_iff] at hop
    exact alignTo_holds hv' hop.1 hop.2 ax
  | transpose => exact transpose_holds hv'
  | copy => exact copy_holds hv'
  | updateIds m ax strict inplace => exact updateIds_holds hv' m ax strict inplace

/-- reordering by a permutation and back, observed by content: IDs, order, cells and metadata by ID -/
theorem sortOrder_inverse_restored {t r r2 : Table α} {order : List Id} {ax : Axis} (hv : Valid t)
    (hp : order.Perm (t.ids ax)) (h : sortOrder t order ax = .ok r) (h2 : sortOrder r (t.ids ax) ax = .ok r2) :
    restored t r2 = true := by
  cases (sortOrder_inverse hv hp h).symm.trans h2
  exact (restored_iff _ _).mpr ⟨rfl, rfl, copy_kept hv⟩

theorem transpose_transpose_restored {t r r2 : Table α} (hv : Valid t) (h : transposeT t = .ok r)
    (h2 : transposeT r = .ok r2) : restored t r2 = true := by
  cases (transpose_transpose hv h).symm.trans h2
  -- `Kept` does not look at the table type, the one field in which the result differs from `norm t`
  exact (restored_iff _ _).mpr
    ⟨rfl, rfl, (copy_kept hv).wf, (copy_kept hv).cells, (copy_kept hv).md⟩

end ModelHolds

/-! ### non-vacuity: the hypotheses are met by concrete, asymmetric inputs; the witness -/

def demo : Table Nat :=
  { obs := ["o1", "o2"], samp := ["s1", "s2", "s3"], rows := [[1, 2, 3], [4, 0, 6]],
    omd := some [[("taxonomy", "[\"k__A\"]")], [("taxonomy", "[\"k__B\"]")]],
    smd := some [[("grp", "\"a\"")], [], [("grp", "\"c\"")]], ttype := some "OTU table" }

theorem demo_valid : Valid demo := (valid_iff demo).mp (by decide +kernel)

-- the input that used to crash (`update_ids({}, …)` raised ValueError from `max([])` before the repair):
-- strict=False keeps every ID, strict=True refuses the first unmapped ID, and the predicate holds
example : (updateIds demo [] .samp false true).result = .ok demo ∧
    isErr (updateIds demo [] .samp true false).result .tableException = true ∧
    holds demo (.updateIds [] .samp false true) (run demo (.updateIds [] .samp false true)) = true ∧
    holds demo (.updateIds [] .samp true false) (run demo (.updateIds [] .samp true false)) = true :=
  have hv : valid demo = true := (valid_iff demo).mpr demo_valid
  ⟨(updateIds_emptyMap_keeps demo_valid .samp).1,
   congrArg (isErr · .tableException)
     (updateIds_refuses_missing_strict (t := demo) ⟨"s1", List.mem_cons_self, rfl⟩).1,
   model_holds hv _ rfl, model_holds hv _ rfl⟩

example : ["s3", "s1", "s2"].Perm (demo.ids .samp) := List.isPerm_iff.mp (by decide +kernel)

-- sortOrder_perm / sortOrder_cell / sortOrder_md / sortOrder_inverse: a 3-cycle of the samples
example : ∃ r, sortOrder demo ["s3", "s1", "s2"] .samp = .ok r ∧ r.samp = ["s3", "s1", "s2"] ∧
    r.cell? "o2" "s3" = some 6 ∧ r.rows = [[3, 1, 2], [6, 4, 0]] ∧ mdE r .samp "s2" = [] ∧
    mdE r .samp "s3" = [("grp", "\"c\"")] ∧ sortOrder r demo.samp .samp = .ok demo := by
  refine ⟨_, sortOrder_ok demo_valid (by decide +kernel) (by decide +kernel), ?_⟩
  decide +kernel

example : norm demo = demo := rfl

example : sortOrder demo ["s3", "s1", "s1"] .samp = .error .tableException :=
  sortOrder_refuses_duplicate (by decide +kernel) (by decide +kernel) (by decide +kernel)

example : sortOrder demo ["s3", "zz"] .samp = .error .unknownId :=
  sortOrder_refuses_unknown ⟨"zz", by decide +kernel, by decide +kernel⟩

-- transpose_cell / transpose_transpose
example : ∃ r, transposeT demo = .ok r ∧ r.cell? "s3" "o2" = demo.cell? "o2" "s3" ∧ r.obs = demo.samp ∧
    mdE r .obs "s1" = mdE demo .samp "s1" ∧ transposeT r = .ok { demo with ttype := none } :=
  have h := transposeT_ok demo_valid
  ⟨_, h, transpose_cell demo_valid.wf h "o2" "s3", (transpose_ids h).1, transpose_md h .samp "s1",
    transpose_transpose demo_valid h⟩

-- updateIds_cell_obs: a partial, lengthening renaming with strict=False, not in place
example : ∃ r, (updateIds demo [("o1", "o1_much_longer_id")] .obs false false).result = .ok r ∧
    r.obs = ["o1_much_longer_id", "o2"] ∧ r.cell? "o1_much_longer_id" "s3" = some 3 ∧
    mdE r .obs "o1_much_longer_id" = mdE demo .obs "o1" := by
  obtain ⟨r, h1, h2, _, h4, h5, _⟩ := updateIds_cell_obs (m := [("o1", "o1_much_longer_id")]) (strict := false)
    (inplace := false) demo_valid (by decide +kernel) (by decide +kernel)
  exact ⟨r, h1, h2, h4 "o1" List.mem_cons_self "s3", h5 "o1" List.mem_cons_self⟩

-- a shortening, total renaming with strict=True, in place
example : ∃ r, (updateIds demo [("s1", "a"), ("s2", "b"), ("s3", "c")] .samp true true).result = .ok r ∧
    r.samp = ["a", "b", "c"] ∧ ∀ o, r.cell? o "c" = demo.cell? o "s3" := by
  obtain ⟨r, h1, h2, _, h4, _, _⟩ := updateIds_cell_samp (m := [("s1", "a"), ("s2", "b"), ("s3", "c")])
    (strict := true) (inplace := true) demo_valid (by decide +kernel) (by decide +kernel)
  exact ⟨r, h1, h2, fun o => h4 "s3" (by decide +kernel) o⟩

-- updateIds_refuses_noninjective / updateIds_refuses_missing_strict
example : (updateIds demo [("o1", "o2")] .obs false true).result = .error .tableException ∧
    (updateIds demo [("o1", "o2")] .obs false true).after = demo :=
  updateIds_refuses_noninjective demo_valid (by decide +kernel) (by decide +kernel) (by decide +kernel)

example : (updateIds demo [("s1", "x")] .samp true false).result = .error .tableException ∧
    (updateIds demo [("s1", "x")] .samp true false).after = demo :=
  updateIds_refuses_missing_strict ⟨"s2", by decide +kernel, by decide +kernel⟩

-- alignTo_order: both axes permuted in the other table; alignTo_refuses_disjoint
example : ∃ r, alignTo demo ["o2", "o1"] ["s2", "s3", "s1"] .both = .ok r ∧ r.obs = ["o2", "o1"] ∧
    r.samp = ["s2", "s3", "s1"] ∧ r.rows = [[0, 6, 4], [2, 3, 1]] := by
  obtain ⟨r, h, _, _, hids⟩ := alignTo_order demo_valid (oObs := ["o2", "o1"]) (oSamp := ["s2", "s3", "s1"])
    (by decide +kernel) (by decide +kernel) (ax := .both) (want := [.obs, .samp]) (by decide +kernel)
  have hrows : (alignTo demo ["o2", "o1"] ["s2", "s3", "s1"] .both).toOption.map (·.rows) =
      some [[0, 6, 4], [2, 3, 1]] := by decide +kernel
  rw [h] at hrows
  exact ⟨r, h, hids .obs, hids .samp, Option.some.inj hrows⟩

example : alignTo demo ["o2", "o1"] ["s2", "s3"] .sample = .error .disjointId :=
  alignTo_refuses_disjoint (by decide +kernel) (by decide +kernel)

example : otherValid (.alignTo ["o2", "o1"] ["s2", "s3", "s1"] .both) = true := by decide +kernel

end Biom.C06

