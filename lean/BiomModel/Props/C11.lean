/-
  C11 — property theorems.  Everything is for EVERY table with distinct IDs (any size, any values,
  any metadata), EVERY labelling (the labeller's results per ID are universally quantified), both
  axes, every flag combination — no bound anywhere.
-/
import BiomModel.Lemmas.C11

namespace Biom.C11

/-- C11's domain (the C01 domain): at least one observation and one sample.  The model is tied to
the code only there: for a table whose OTHER axis is empty the real one-to-one collapse returns a
0 x 0 matrix next to the collapsed IDs (observed on `Table(zeros((3,0)), ['x','y','z'], [])`), which
the model does not exhibit; such tables are outside the property's quantifier. -/
def Domain (t : Table Rat) : Prop := t.obs ≠ [] ∧ t.samp ≠ []

/-- what the property's quantifier demands of an operation's arguments -/
def OpOk (t : Table Rat) (ax : Axis) : Op → Prop
  | .partition _ _ _ => True
  | .collapse f _ _ _ =>
    Domain t ∧ ∀ ls, f.labels (t.ids ax) = .ok ls → InjLabels ls ∧ (t.ids ax).length ≤ ls.length
  | .otm evss _ _ _ _ => evss.length = (t.ids ax).length

theorem partition_model_holds (t : Table Rat) (ax : Axis) (ht : TableOk t) (f : Labeler) (re ign : Bool) :
    holds t ax (.partition f re ign) (model t ax (.partition f re ign)) = true := by
  unfold holds model partition
  cases hl : f.labels (t.ids ax) with
  | error e =>
    simp only [bind, Except.bind, clauses, hl, Clauses.ok_cons, Clauses.ok_nil, decide_true, Bool.and_true]
  | ok ls =>
    have hto := orient_ok ax t ht
    have hwf := partitionO_wf (orient ax t) hto.wf ls re ign
    simp only [bind, Except.bind, pure, Except.pure, clauses, hl]
    rw [Clauses.ok_append, map_orient_orient ax _ hwf, Bool.and_eq_true]
    refine ⟨?_, holdsPartitionO_model (orient ax t) hto ls re ign⟩
    rw [Clauses.ok_cons, Clauses.ok_nil, Bool.and_true, List.all_eq_true, List.forall_mem_map]
    exact fun p hp => (Layer.table_wfb_iff _).mpr (orient_wf ax _ (hwf p hp))

/-- a well-formed result passes the raw shape check made before orienting it: that clause drops out -/
theorem ok_shape_clause (n : String) {r : Table Rat} (h : r.WF) (c : Clauses) :
    Clauses.ok ([(n, shapeOk r (r.obs.length, r.samp.length))] ++ c) = c.ok := by
  rw [Clauses.ok_append, Clauses.ok_cons, Clauses.ok_nil, shapeOk, (Layer.table_wfb_iff r).mpr h, decide_eq_true rfl]
  rfl

theorem collapse_model_holds (t : Table Rat) (ax : Axis) (ht : TableOk t) (f : Labeler) (norm : Bool)
    (ms : Nat) (icm : Bool) (hop : OpOk t ax (.collapse f norm ms icm)) :
    holds t ax (.collapse f norm ms icm) (model t ax (.collapse f norm ms icm)) = true := by
  unfold holds model collapse
  cases hl : f.labels (t.ids ax) with
  | error e =>
    simp only [bind, Except.bind, clauses, hl, Clauses.ok_cons, Clauses.ok_nil, decide_true, Bool.and_true]
  | ok ls =>
    have hto := orient_ok ax t ht
    obtain ⟨hinj, hlen⟩ := hop.2 ls hl
    have hwf := collapseO_wf (orient ax t) hto ls norm ms icm
    simp only [bind, Except.bind, pure, Except.pure, clauses, hl]
    rw [ok_shape_clause _ (orient_wf ax _ hwf), orient_orient ax _ hwf]
    exact holdsCollapseO_model (orient ax t) hto ls hinj (Nat.le_trans (Nat.le_of_eq (orient_obs_length ax t)) hlen) norm ms icm

theorem otm_model_holds (t : Table Rat) (ax : Axis) (ht : TableOk t) (evss : List Events)
    (divide strict icm : Bool) (key : String) (hop : OpOk t ax (.otm evss divide strict icm key)) :
    holds t ax (.otm evss divide strict icm key) (model t ax (.otm evss divide strict icm key)) = true := by
  have hto := orient_ok ax t ht
  have hl : evss.length = (orient ax t).obs.length := hop.trans (orient_obs_length ax t).symm
  have hmain := holdsOtmO_model (orient ax t) hto evss hl divide strict icm key
  unfold holds model otm
  cases hr : otmO (orient ax t) evss divide strict icm key with
  | error e =>
    simp only [hr, bind, Except.bind, clauses]
    exact hr ▸ hmain
  | ok r =>
    have hwf := otmO_wf (orient ax t) hto evss hl divide strict icm key r hr
    simp only [hr, bind, Except.bind, pure, Except.pure, clauses]
    rw [ok_shape_clause _ (orient_wf ax _ hwf), orient_orient ax _ hwf, ← hr]
    exact hmain

/-- The whole property: the declarative predicate is true of what the model computes, for every
table with distinct IDs, either axis, every operation and every labelling. -/
theorem model_holds (t : Table Rat) (ax : Axis) (op : Op) (ht : TableOk t) (hop : OpOk t ax op) :
    holds t ax op (model t ax op) = true := by
  cases op with
  | partition f re ign => exact partition_model_holds t ax ht f re ign
  | collapse f norm ms icm => exact collapse_model_holds t ax ht f norm ms icm hop
  | otm evss divide strict icm key => exact otm_model_holds t ax ht evss divide strict icm key hop

/-! ## The property in its own words

`ks` below is the list of effective labels, one per ID of the axis: `none` for an ID skipped by
`ignore_none`, `some k` otherwise (lists already tupled).  `members ids ks k` = the IDs whose label
is `k`, in the table's order, each looked up by ID. -/

section Partition
variable (t : Table Rat) (ax : Axis) (f : Labeler) (ign : Bool) (ls : List Label)

theorem partition_eq (re : Bool) (hl : f.labels (t.ids ax) = .ok ls) :
    partition t ax f re ign = .ok ((firsts ((ls.map (eff ign)).filterMap id)).map
      (fun k => (k, orient ax (partOf (orient ax t) (ls.map (eff ign)) re k)))) := by
  unfold partition
  rw [hl]
  exact congrArg Except.ok (by rw [partitionO_eq, List.map_map]; rfl)

theorem mem_partition (re : Bool) (hl : f.labels (t.ids ax) = .ok ls) {ps : List (Label × Table Rat)}
    (h : partition t ax f re ign = .ok ps) {k : Label} {p : Table Rat} :
    (k, p) ∈ ps ↔ k ∈ firsts ((ls.map (eff ign)).filterMap id) ∧
      p = orient ax (partOf (orient ax t) (ls.map (eff ign)) re k) := by
  rw [partition_eq t ax f ign ls re hl] at h
  cases h
  rw [List.mem_map]
  constructor
  · rintro ⟨k', hk', he⟩
    cases he
    exact ⟨hk', rfl⟩
  · rintro ⟨hk, rfl⟩
    exact ⟨k, hk, rfl⟩

theorem partOf_ids (ht : TableOk t) (re : Bool) (k : Label) :
    (orient ax (partOf (orient ax t) (ls.map (eff ign)) re k)).ids ax =
      if re then (members (t.ids ax) (ls.map (eff ign)) k).filter (rowNZ (orient ax t))
      else members (t.ids ax) (ls.map (eff ign)) k := by
  have hto := orient_ok ax t ht
  rw [orient_ids, ← orient_obs]
  cases re
  · exact sel_obs_eq_members _ hto.obsNodup _ k
  · exact removeEmpty_sel_obs _ hto _ k

/-- the parts carry distinct labels -/
theorem partition_labels_distinct (re : Bool) (hl : f.labels (t.ids ax) = .ok ls)
    {ps : List (Label × Table Rat)} (h : partition t ax f re ign = .ok ps) : (ps.map (·.1)).Nodup := by
  rw [partition_eq t ax f ign ls re hl] at h
  cases h
  rw [List.map_map]
  exact (List.map_id _).symm ▸ nodup_firsts _

/-- `partition_part_ids`: a part's IDs on the axis are exactly the IDs given that label, in the
original order -/
theorem partition_part_ids (ht : TableOk t) (hl : f.labels (t.ids ax) = .ok ls)
    {ps : List (Label × Table Rat)} (h : partition t ax f false ign = .ok ps) {k : Label} {p : Table Rat}
    (hp : (k, p) ∈ ps) : p.ids ax = members (t.ids ax) (ls.map (eff ign)) k := by
  obtain ⟨_, rfl⟩ := (mem_partition t ax f ign ls false hl h).mp hp
  exact partOf_ids t ax ign ls ht false k

/-- with `remove_empty` the all-zero vectors of the group are dropped, nothing else -/
theorem partition_part_ids_remove_empty (ht : TableOk t) (hl : f.labels (t.ids ax) = .ok ls)
    {ps : List (Label × Table Rat)} (h : partition t ax f true ign = .ok ps) {k : Label} {p : Table Rat}
    (hp : (k, p) ∈ ps) :
    p.ids ax = (members (t.ids ax) (ls.map (eff ign)) k).filter (rowNZ (orient ax t)) := by
  obtain ⟨_, rfl⟩ := (mem_partition t ax f ign ls true hl h).mp hp
  exact partOf_ids t ax ign ls ht true k

theorem label_of_mem_part (ht : TableOk t) (re : Bool) {k : Label} {id : Id}
    (hi : id ∈ (orient ax (partOf (orient ax t) (ls.map (eff ign)) re k)).ids ax) :
    lookupBy (t.ids ax) (ls.map (eff ign)) id = some (some k) := by
  rw [partOf_ids t ax ign ls ht] at hi
  have hm : id ∈ members (t.ids ax) (ls.map (eff ign)) k := by
    cases re
    · exact hi
    · exact (List.mem_filter.mp hi).1
  exact of_decide_eq_true (List.mem_filter.mp hm).2

/-- `partition_cover`: every ID whose label is kept lies in the part of that label -/
theorem partition_cover (ht : TableOk t) (hl : f.labels (t.ids ax) = .ok ls)
    {ps : List (Label × Table Rat)} (h : partition t ax f false ign = .ok ps) {x : Id} (hid : x ∈ t.ids ax)
    {k : Label} (hk : lookupBy (t.ids ax) (ls.map (eff ign)) x = some (some k)) :
    ∃ p, (k, p) ∈ ps ∧ x ∈ p.ids ax := by
  have hkey : k ∈ firsts ((ls.map (eff ign)).filterMap id) :=
    (mem_firsts _ _).mpr (List.mem_filterMap.mpr ⟨some k, lookupBy_mem _ _ _ _ hk, rfl⟩)
  refine ⟨_, (mem_partition t ax f ign ls false hl h).mpr ⟨hkey, rfl⟩, ?_⟩
  rw [partOf_ids t ax ign ls ht]
  exact List.mem_filter.mpr ⟨hid, decide_eq_true hk⟩

/-- `partition_disjoint`: an ID lies in at most one part (with or without `remove_empty`) -/
theorem partition_disjoint (ht : TableOk t) (re : Bool) (hl : f.labels (t.ids ax) = .ok ls)
    {ps : List (Label × Table Rat)} (h : partition t ax f re ign = .ok ps) {k₁ k₂ : Label} {p₁ p₂ : Table Rat}
    (h₁ : (k₁, p₁) ∈ ps) (h₂ : (k₂, p₂) ∈ ps) {id : Id} (hi₁ : id ∈ p₁.ids ax) (hi₂ : id ∈ p₂.ids ax) :
    k₁ = k₂ ∧ p₁ = p₂ := by
  obtain ⟨_, rfl⟩ := (mem_partition t ax f ign ls re hl h).mp h₁
  obtain ⟨_, rfl⟩ := (mem_partition t ax f ign ls re hl h).mp h₂
  have e₁ := label_of_mem_part t ax ign ls ht re hi₁
  have e₂ := label_of_mem_part t ax ign ls ht re hi₂
  cases e₁.symm.trans e₂
  exact ⟨rfl, rfl⟩

/-- `partition_cells_md`: without `remove_empty` a part keeps the complete other axis with its
metadata (all-empty metadata counting as none), and every ID of the part keeps its metadata entry
and every cell of its vector -/
theorem partition_cells_md (ht : TableOk t) (hl : f.labels (t.ids ax) = .ok ls)
    {ps : List (Label × Table Rat)} (h : partition t ax f false ign = .ok ps) {k : Label} {p : Table Rat}
    (hp : (k, p) ∈ ps) :
    p.ids ax.other = t.ids ax.other ∧ p.md ax.other = normMd (t.md ax.other) ∧ p.ttype = t.ttype ∧
      ∀ id ∈ p.ids ax, mdD p ax id = mdD t ax id ∧ ∀ oid, cellAx ax p id oid = cellAx ax t id oid := by
  have hto := orient_ok ax t ht
  obtain ⟨_, rfl⟩ := (mem_partition t ax f ign ls false hl h).mp hp
  rw [partOf_false]
  refine ⟨?_, ?_, ?_, ?_⟩
  · rw [orient_ids_other]; exact orient_samp ax t
  · rw [orient_md_other]; exact congrArg normMd (orient_smd ax t)
  · rw [orient_ttype]; exact orient_ttype ax t
  · intro id hid
    rw [orient_ids, castMd_obs] at hid
    constructor
    · -- back through the orientation, the constructor, the selection, and the orientation of `t`
      exact (mdD_orient ax _ id).trans ((mdD_castMd _ .obs id).trans
        ((mdD_of_mdOf (sel_mdOf_obs _ hto.obsNodup _ hid)).trans (mdD_of_orient ax t id)))
    · intro oid
      rw [cellAx_orient ax _ (castMd_wf _ (sel_wf _ hto.wf _)) hid,
        cellAx_of_orient ax t ht.wf (orient_obs ax t ▸ mem_filterMask _ _ _ hid)]
      exact sel_cell _ hto.obsNodup _ hid oid

end Partition

def cellAxD (ax : Axis) (t : Table Rat) (id oid : Id) : Rat := (cellAx ax t id oid).getD 0

theorem cellD_orient (ax : Axis) (t : Table Rat) (ht : t.WF) {id : Id} (hid : id ∈ t.ids ax) (oid : Id) :
    cellD (orient ax t) id oid = cellAxD ax t id oid :=
  (congrArg (·.getD 0) (cellAx_of_orient ax t ht hid)).symm

theorem cellAxD_orient (ax : Axis) (q : Table Rat) (hq : q.WF) {id : Id} (hid : id ∈ q.obs) (oid : Id) :
    cellAxD ax (orient ax q) id oid = cellD q id oid :=
  congrArg (·.getD 0) (cellAx_orient ax q hq hid)

section Collapse
variable (t : Table Rat) (ax : Axis) (f : Labeler) (ls : List Label)

/-- the labels whose group reaches `min_group_size`, in first-occurrence order -/
def keptLabels (ms : Nat) : List Label :=
  (firsts (ls.map Label.key)).filter (fun k => decide (ms ≤ (members (t.ids ax) (ksOf ls) k).length))

theorem keptLabels_eq (ms : Nat) : keptLabels t ax ls ms = keptKeys (orient ax t) ls ms := by
  unfold keptLabels keptKeys
  rw [orient_obs]

theorem collapse_eq (norm : Bool) (ms : Nat) (icm : Bool) (hl : f.labels (t.ids ax) = .ok ls) :
    collapse t ax f norm ms icm = .ok (orient ax (collapseO (orient ax t) ls norm ms icm)) := by
  unfold collapse
  rw [hl]
  rfl

/-- result IDs on the collapsed axis = the labels with at least `min_group_size` members;
the other axis, its metadata and the type are unchanged and the result is shape-coherent — also
when NO group reaches the threshold (then the axis is empty and the other axis is still complete) -/
theorem collapse_ids_and_other_axis (ht : TableOk t) (_hdom : Domain t) (norm : Bool) (ms : Nat) (icm : Bool)
    (hl : f.labels (t.ids ax) = .ok ls) {r : Table Rat} (h : collapse t ax f norm ms icm = .ok r) :
    r.ids ax = (keptLabels t ax ls ms).map Label.toId ∧ r.ids ax.other = t.ids ax.other ∧
      r.md ax.other = normMd (t.md ax.other) ∧ r.ttype = t.ttype ∧ r.WF := by
  rw [collapse_eq t ax f ls norm ms icm hl] at h
  cases h
  have hto := orient_ok ax t ht
  refine ⟨?_, ?_, ?_, ?_, orient_wf ax _ (collapseO_wf (orient ax t) hto ls norm ms icm)⟩
  · rw [orient_ids, collapseO_obs _ hto.obsNodup, keptLabels_eq]
  · rw [orient_ids_other]; exact orient_samp ax t
  · rw [orient_md_other]; exact congrArg normMd (orient_smd ax t)
  · rw [orient_ttype]; exact orient_ttype ax t

/-- `collapse_vector`: the vector of a kept label is the element-wise sum of its members, divided
by their number when normalising (over the rationals) -/
theorem collapse_vector (ht : TableOk t) (norm : Bool) (ms : Nat) (icm : Bool)
    (hl : f.labels (t.ids ax) = .ok ls) (hinj : InjLabels ls) {r : Table Rat}
    (h : collapse t ax f norm ms icm = .ok r) {k : Label} (hk : k ∈ keptLabels t ax ls ms) {oid : Id}
    (ho : oid ∈ t.ids ax.other) :
    cellAx ax r k.toId oid =
      some (if norm then sumOver (members (t.ids ax) (ksOf ls) k) (fun id => cellAxD ax t id oid) /
                ((members (t.ids ax) (ksOf ls) k).length : Rat)
            else sumOver (members (t.ids ax) (ksOf ls) k) (fun id => cellAxD ax t id oid)) := by
  rw [collapse_eq t ax f ls norm ms icm hl] at h
  cases h
  have hto := orient_ok ax t ht
  rw [keptLabels_eq] at hk
  have hidr : k.toId ∈ (collapseO (orient ax t) ls norm ms icm).obs := by
    rw [collapseO_obs _ hto.obsNodup]; exact List.mem_map_of_mem hk
  rw [cellAx_orient ax _ (collapseO_wf _ hto ls norm ms icm) hidr,
    collapseO_cell _ hto ls hinj norm ms icm hk (mem_orient_samp ho), orient_obs,
    sumOver_congr (l := members (t.ids ax) (ksOf ls) k)
      (fun id hid => cellD_orient ax t ht.wf (List.mem_filter.mp hid).1 oid)]

/-- `collapse_ids_md`: the `collapsed_ids` of a kept label are exactly its members, in order -/
theorem collapse_ids_md (ht : TableOk t) (norm : Bool) (ms : Nat) (hl : f.labels (t.ids ax) = .ok ls)
    (hinj : InjLabels ls) {r : Table Rat} (h : collapse t ax f norm ms true = .ok r) {k : Label}
    (hk : k ∈ keptLabels t ax ls ms) :
    r.mdOf? ax k.toId = some (cidsMd (members (t.ids ax) (ksOf ls) k)) := by
  rw [collapse_eq t ax f ls norm ms true hl] at h
  cases h
  rw [keptLabels_eq] at hk
  rw [orient_mdOf, collapseO_mdOf _ (orient_ok ax t ht) ls hinj norm ms hk, orient_obs]

/-- `collapse_conserves`: without normalisation and with threshold ≤ 1 every other-axis total is
unchanged -/
theorem collapse_conserves (ht : TableOk t) (ms : Nat) (hms : ms ≤ 1) (icm : Bool)
    (hl : f.labels (t.ids ax) = .ok ls) (hinj : InjLabels ls) (hlen : (t.ids ax).length ≤ ls.length)
    {r : Table Rat} (h : collapse t ax f false ms icm = .ok r) {oid : Id} (ho : oid ∈ t.ids ax.other) :
    sumOver (r.ids ax) (fun id => cellAxD ax r id oid) = sumOver (t.ids ax) (fun id => cellAxD ax t id oid) := by
  rw [collapse_eq t ax f ls false ms icm hl] at h
  cases h
  have hto := orient_ok ax t ht
  have hwf := collapseO_wf (orient ax t) hto ls false ms icm
  rw [orient_ids, sumOver_congr (fun id hid => cellAxD_orient ax _ hwf hid oid),
    collapseO_conserve (orient ax t) hto ls hinj (Nat.le_trans (Nat.le_of_eq (orient_obs_length ax t)) hlen) ms hms icm
      (mem_orient_samp ho), orient_obs]
  exact sumOver_congr (fun id hid => cellD_orient ax t ht.wf hid oid)

end Collapse

section OneToMany
variable (t : Table Rat) (ax : Axis) (evss : List Events)

/-- the (pathway, bin) pairs an ID's iterator delivered, looked up by ID -/
def itemsById (id : Id) : List (String × String) := items ((lookupBy (t.ids ax) evss id).getD [])

theorem itemsById_eq (id : Id) : itemsById t ax evss id = itemsOf (orient ax t) evss id := by
  unfold itemsById itemsOf
  rw [orient_obs]

theorem omd_isNone_false (t : Table Rat) (ax : Axis) (hmd : (t.md ax).isSome = true) :
    (orient ax t).omd.isNone = false := by
  rw [orient_omd, Option.isNone_eq_false_iff]
  exact hmd

theorem otm_eq {divide strict icm : Bool} {key : String} (ht : TableOk t) (hl : evss.length = (t.ids ax).length)
    (hmd : (t.md ax).isSome = true) (hst : (strict && evss.any (fun evs => evs.any Option.isNone)) = false) :
    otm t ax evss divide strict icm key = .ok (orient ax (otmTable (orient ax t) evss divide icm key)) := by
  unfold otm
  rw [otmO_eq (orient ax t) (orient_ok ax t ht).obsNodup evss (hl.trans (orient_obs_length ax t).symm) divide strict icm key
    (omd_isNone_false t ax hmd) hst]
  rfl

/-- `strict`: one incomplete pathway anywhere refuses the whole collapse -/
theorem otm_strict_refuses {divide icm : Bool} {key : String} (hmd : (t.md ax).isSome = true)
    (hbad : evss.any (fun evs => evs.any Option.isNone) = true) :
    otm t ax evss divide true icm key = .error .index := by
  unfold otm
  rw [otmO_strict _ evss divide true icm key (omd_isNone_false t ax hmd) hbad]
  rfl

/-- the bins of the result are exactly the bins some vector lists -/
theorem otm_bins {divide strict icm : Bool} {key : String} (ht : TableOk t)
    (hl : evss.length = (t.ids ax).length) (hmd : (t.md ax).isSome = true)
    (hst : (strict && evss.any (fun evs => evs.any Option.isNone)) = false) {r : Table Rat}
    (h : otm t ax evss divide strict icm key = .ok r) (b : String) :
    b ∈ r.ids ax ↔ ∃ id ∈ t.ids ax, ∃ p ∈ itemsById t ax evss id, p.2 = b := by
  rw [otm_eq t ax evss ht hl hmd hst] at h
  cases h
  rw [orient_ids]
  show b ∈ otmBins (orient ax t) evss ↔ _
  rw [mem_otmBins_iff_exists, orient_obs]
  simp only [itemsById_eq]

/-- `otm_add_cell` (and the `divide` cell): every vector contributes its count once per listing of
the bin — duplicates counted — (divided by its number of groups in `divide` mode) -/
theorem otm_cell {divide strict icm : Bool} {key : String} (ht : TableOk t)
    (hl : evss.length = (t.ids ax).length) (hmd : (t.md ax).isSome = true)
    (hst : (strict && evss.any (fun evs => evs.any Option.isNone)) = false) {r : Table Rat}
    (h : otm t ax evss divide strict icm key = .ok r) {b : String} (hb : b ∈ r.ids ax) {oid : Id}
    (ho : oid ∈ t.ids ax.other) :
    cellAx ax r b oid =
      some (sumOver (t.ids ax) (fun id => weight divide b (itemsById t ax evss id) * cellAxD ax t id oid)) := by
  rw [otm_eq t ax evss ht hl hmd hst] at h
  cases h
  have hto := orient_ok ax t ht
  rw [orient_ids] at hb
  rw [cellAx_orient ax _ (otmTable_wf _ hto evss divide icm key) hb,
    otmTable_cell _ hto evss (hl.trans (orient_obs_length ax t).symm) divide icm key hb (mem_orient_samp ho),
    orient_obs]
  exact congrArg some (sumOver_congr fun id hid => by rw [itemsById_eq, cellD_orient ax t ht.wf hid])

theorem otm_add_cell {strict icm : Bool} {key : String} (ht : TableOk t)
    (hl : evss.length = (t.ids ax).length) (hmd : (t.md ax).isSome = true)
    (hst : (strict && evss.any (fun evs => evs.any Option.isNone)) = false) {r : Table Rat}
    (h : otm t ax evss false strict icm key = .ok r) {b : String} (hb : b ∈ r.ids ax) {oid : Id}
    (ho : oid ∈ t.ids ax.other) :
    cellAx ax r b oid =
      some (sumOver (t.ids ax) (fun id => (mult b (itemsById t ax evss id) : Rat) * cellAxD ax t id oid)) :=
  otm_cell t ax evss ht hl hmd hst h hb ho

/-- `otm_divide_conserves`: in `divide` mode the vectors that map to at least one group keep their
totals (over the rationals) -/
theorem otm_divide_conserves {strict icm : Bool} {key : String} (ht : TableOk t)
    (hl : evss.length = (t.ids ax).length) (hmd : (t.md ax).isSome = true)
    (hst : (strict && evss.any (fun evs => evs.any Option.isNone)) = false) {r : Table Rat}
    (h : otm t ax evss true strict icm key = .ok r) {oid : Id} (ho : oid ∈ t.ids ax.other) :
    sumOver (r.ids ax) (fun b => cellAxD ax r b oid) =
      sumOver ((t.ids ax).filter (fun id => !(itemsById t ax evss id).isEmpty)) (fun id => cellAxD ax t id oid) := by
  rw [otm_eq t ax evss ht hl hmd hst] at h
  cases h
  have hto := orient_ok ax t ht
  have hwf := otmTable_wf (orient ax t) hto evss true icm key
  rw [orient_ids, sumOver_congr (fun b hb => cellAxD_orient ax _ hwf hb oid),
    otmTable_divide_conserve (orient ax t) hto evss (hl.trans (orient_obs_length ax t).symm) icm key
      (mem_orient_samp ho), orient_obs,
    List.filter_congr (fun id _ => by rw [← itemsById_eq])]
  exact sumOver_congr (fun id hid => cellD_orient ax t ht.wf (List.mem_filter.mp hid).1 oid)

end OneToMany

/-! ## Non-vacuity: the hypotheses are met by concrete, non-trivial inputs -/

/-- string labels (the documented use of `collapse`) become distinct IDs -/
theorem injLabels_of_str (ls : List Label) (h : ∀ l ∈ ls, ∃ s, l = .str s) : InjLabels ls := by
  intro a ha b hb he
  obtain ⟨sa, rfl⟩ := h a ha
  obtain ⟨sb, rfl⟩ := h b hb
  simp only [Label.key, Label.toId] at he ⊢
  rw [he]

def demo : Table Rat :=
  { obs := ["o1", "o2", "o3"], samp := ["s1", "s2", "s3"],
    rows := [[1, 2, 0], [3, 4, 5], [0, 0, 0]],
    omd := some [[("g", "x")], [("g", "y")], [("g", "x")]],
    smd := some [[("t", "a")], [("t", "a")], [("t", "b")]], ttype := some "OTU table" }

def demoF : Labeler := .results [.str "a", .str "a", .str "b"]
def demoId : Labeler := .results [.str "s1", .str "s2", .str "s3"]
def demoEvents : List Events :=
  [[some ("P1", "K1"), some ("P2", "K2"), some ("P1", "K1")], [], [some ("P3", "K2"), none]]

theorem demo_ok : TableOk demo :=
  ⟨(Layer.table_wfb_iff _).mp (by decide +kernel), by decide +kernel, by decide +kernel⟩

example : OpOk demo .samp (.collapse demoF false 1 true) := by
  refine ⟨⟨by decide, by decide⟩, ?_⟩
  intro ls hls
  cases hls
  refine ⟨injLabels_of_str _ ?_, by decide⟩
  intro l hl
  simp only [List.mem_cons, List.mem_nil_iff, or_false] at hl
  rcases hl with rfl | rfl | rfl <;> exact ⟨_, rfl⟩

example : OpOk demo .samp (.otm demoEvents true false true "Path") := by
  show demoEvents.length = (demo.ids .samp).length
  decide

/-- two parts, the IDs split as labelled -/
example : (match partition demo .samp demoF false false with
    | .ok ps => ps.map (fun p => (p.1, p.2.samp, p.2.obs))
    | .error _ => []) =
    [(.str "a", ["s1", "s2"], ["o1", "o2", "o3"]), (.str "b", ["s3"], ["o1", "o2", "o3"])] := by decide +kernel

/-- `remove_empty` drops the all-zero observation o3 (and from part b also o1) -/
example : (match partition demo .samp demoF true false with
    | .ok ps => ps.map (fun p => (p.1, p.2.samp, p.2.obs))
    | .error _ => []) =
    [(.str "a", ["s1", "s2"], ["o1", "o2"]), (.str "b", ["s3"], ["o2"])] := by decide +kernel

def demoSparse : Table Rat := { demo with smd := some [[("t", "a")], [], []] }

/-- `_cast_metadata`: the part made only of samples without any metadata entry has NO sample
metadata, the other part keeps its entries -/
example : (match partition demoSparse .samp (.results [.str "x", .str "y", .str "y"]) false false with
    | .ok ps => ps.map (fun p => (p.2.samp, p.2.smd.isSome))
    | .error _ => []) = [(["s1"], true), (["s2", "s3"], false)] := by decide +kernel

/-- one-to-one collapse without normalisation: sums, and the totals 3, 12, 0 of o1, o2, o3 conserved -/
example : (match collapse demo .samp demoF false 1 true with
    | .ok r => (r.samp, r.rows, r.smd)
    | .error _ => ([], [], none)) =
    (["a", "b"], [[3, 0], [7, 5], [0, 0]],
      some [[("collapsed_ids", "s1\u001fs2")], [("collapsed_ids", "s3")]]) := by decide +kernel

/-- the repaired defect: every group smaller than `min_group_size` — no sample left, all three
observations kept, rows of length 0: shape (3, 0) -/
example : (match collapse demo .samp demoId false 2 true with
    | .ok r => (r.obs, r.samp, r.rows, r.wfb)
    | .error _ => ([], [], [], false)) =
    (["o1", "o2", "o3"], [], [[], [], []], true) := by decide +kernel

/-- one-to-many, `divide`: s1 lists K1 twice and K2 once (thirds), s2 lists nothing (dropped),
s3 lists K2 once before its iterator raised IndexError; totals of s1 and s3 are conserved -/
example : (match otm demo .samp demoEvents true false true "Path" with
    | .ok r => (r.samp, r.rows, r.smd)
    | .error _ => ([], [], none)) =
    (["K1", "K2"], [[2/3, 1/3], [2, 6], [0, 0]], some [[("Path", "P1")], [("Path", "P3")]]) := by decide +kernel

example : (match otm demo .samp demoEvents false true true "Path" with
    | .ok _ => none
    | .error e => some e) = some Err.index := by decide +kernel

end Biom.C11
