/-
  C10 — property theorems.  Everything is for EVERY number of operands (`self` plus any list of
  others, so k ≥ 1), BOTH axes, every table size, every ID list, every value type that has a zero
  (sums: every commutative additive monoid) — no bound anywhere.
  Hypothesis `OpsWF`: every operand is a table (consistent shape, distinct IDs on both axes), which
  the constructor of the real class guarantees.
-/
import BiomModel.Lemmas.C10

namespace Biom.C10
variable {α : Type}

def axisIdLists (ax : Axis) (ts : List (Table α)) : List (List Id) := ts.map (·.ids ax)

theorem views_aids (ax : Axis) (ts : List (Table α)) :
    (ts.map (viewOf ax)).map (·.aids) = axisIdLists ax ts :=
  List.map_map.trans (List.map_congr_left fun t _ => viewOf_aids ax t)

/-- **Refusal.** `DisjointIDError` is raised exactly when two DIFFERENT operands share an ID of the
concatenation axis (an ID repeated inside one operand is not what the scan looks at). No
well-formedness is needed for this direction-free statement. -/
theorem concat_refuses_iff [Zero α] (ax : Axis) (self : Table α) (others : List (Table α)) :
    concatAll ax self others = .error .disjointId ↔
      ¬ (axisIdLists ax (self :: others)).Pairwise Disj := by
  unfold concatAll
  rw [← views_aids, ← concatViews_refuses_iff]
  cases concatViews ((self :: others).map (viewOf ax)) with
  | error e => simp only [Except.error.injEq]
  | ok v => simp only [reduceCtorEq]

/-- the same, spelled out with operand positions -/
theorem concat_refuses_iff_shared [Zero α] (ax : Axis) (self : Table α) (others : List (Table α)) :
    concatAll ax self others = .error .disjointId ↔
      ∃ i j : Nat, i < j ∧ ∃ (ti tj : Table α) (a : Id), (self :: others)[i]? = some ti ∧ (self :: others)[j]? = some tj ∧
        a ∈ ti.ids ax ∧ a ∈ tj.ids ax := by
  rw [concat_refuses_iff, axisIdLists, List.pairwise_map, List.pairwise_iff_getElem]
  constructor
  · exact fun h => Classical.byContradiction fun hne => h fun i j hi hj hij a ha hb =>
      hne ⟨i, j, hij, _, _, a, List.getElem?_eq_getElem hi, List.getElem?_eq_getElem hj, ha, hb⟩
  · rintro ⟨i, j, hij, ti, tj, a, hi, hj, hai, haj⟩ h
    obtain ⟨hi', rfl⟩ := List.getElem?_eq_some_iff.mp hi
    obtain ⟨hj', rfl⟩ := List.getElem?_eq_some_iff.mp hj
    exact h i j hi' hj' hij a hai haj

/-- With table operands nothing else can go wrong: no `UnknownID`, no index error. -/
theorem concat_ok [Zero α] (ax : Axis) (self : Table α) (others : List (Table α))
    (hwf : OpsWF (self :: others)) (hdis : (axisIdLists ax (self :: others)).Pairwise Disj) :
    ∃ r, concatAll ax self others = .ok r := by
  obtain ⟨R, hR, _⟩ := concatViews_spec _ (viewsWF_of_ops ax _ hwf) ((views_aids ax _).symm ▸ hdis)
  exact ⟨_, by unfold concatAll; rw [hR]⟩

theorem concat_error_only_disjoint [Zero α] (ax : Axis) (self : Table α) (others : List (Table α))
    (hwf : OpsWF (self :: others)) (e : Err) (h : concatAll ax self others = .error e) :
    e = .disjointId := by
  by_cases hdis : (axisIdLists ax (self :: others)).Pairwise Disj
  · obtain ⟨r, hr⟩ := concat_ok ax self others hwf hdis
    exact nomatch hr.symm.trans h
  · have h' := ((concat_refuses_iff ax self others).mpr hdis).symm.trans h
    exact (Except.error.inj h').symm

/-- everything known about a successful result, in one place (the named corollaries follow) -/
theorem concat_spec [Zero α] (ax : Axis) (self : Table α) (others : List (Table α))
    (hwf : OpsWF (self :: others)) (r : Table α) (h : concatAll ax self others = .ok r) :
    ∃ R : View α, r = tableOf ax self.ttype R ∧
      concatViews ((self :: others).map (viewOf ax)) = .ok R ∧
      (axisIdLists ax (self :: others)).Pairwise Disj ∧
      R.oids.Nodup ∧ R.oids.Pairwise (· ≤ ·) ∧
      (∀ b, b ∈ R.oids ↔ ∃ v ∈ (self :: others).map (viewOf ax), b ∈ v.oids) ∧
      R.aids = ((self :: others).map (viewOf ax)).flatMap (·.aids) ∧
      R.vecs = ((self :: others).map (viewOf ax)).flatMap (fun v => v.vecs.map (ovec R.oids v)) ∧
      R.amd = normMd (some (((self :: others).map (viewOf ax)).flatMap amdEntries)) ∧ R.WF := by
  have hdis : (axisIdLists ax (self :: others)).Pairwise Disj :=
    Classical.byContradiction fun hn => nomatch ((concat_refuses_iff ax self others).mpr hn).symm.trans h
  obtain ⟨R, hR, h1, h2, h3, h4, h5, h6, h7⟩ :=
    concatViews_spec _ (viewsWF_of_ops ax _ hwf) ((views_aids ax _).symm ▸ hdis)
  refine ⟨R, ?_, hR, hdis, h1, h2, h3, h4, h5, h6, h7⟩
  unfold concatAll at h
  rw [hR] at h
  injection h with h
  exact h.symm

/-- **Axis IDs.** The result carries all operands' IDs of the axis, in operand order. -/
theorem concat_axis_ids [Zero α] (ax : Axis) (self : Table α) (others : List (Table α))
    (hwf : OpsWF (self :: others)) (r : Table α) (h : concatAll ax self others = .ok r) :
    r.ids ax = (self :: others).flatMap (·.ids ax) := by
  obtain ⟨R, rfl, _, _, _, _, _, hA, _⟩ := concat_spec ax self others hwf r h
  rw [tableOf_aids, hA, List.flatMap_map]
  exact flatMap_congr' _ _ _ fun t _ => viewOf_aids ax t

/-- **Other-axis IDs.** They are the union of the operands' other-axis IDs, each once, sorted. -/
theorem concat_other_ids [Zero α] (ax : Axis) (self : Table α) (others : List (Table α))
    (hwf : OpsWF (self :: others)) (r : Table α) (h : concatAll ax self others = .ok r) :
    (r.ids ax.other).Nodup ∧ (r.ids ax.other).Pairwise (· ≤ ·) ∧
    ∀ b, b ∈ r.ids ax.other ↔ ∃ t ∈ self :: others, b ∈ t.ids ax.other := by
  obtain ⟨R, rfl, _, _, hn, hs, hm, _⟩ := concat_spec ax self others hwf r h
  rw [tableOf_oids]
  refine ⟨hn, hs, fun b => ?_⟩
  rw [hm b]
  constructor
  · rintro ⟨v, hv, hb⟩
    obtain ⟨t, ht, rfl⟩ := List.mem_map.mp hv
    exact ⟨t, ht, by rw [← viewOf_oids]; exact hb⟩
  · rintro ⟨t, ht, hb⟩
    exact ⟨viewOf ax t, List.mem_map_of_mem ht, by rw [viewOf_oids]; exact hb⟩

/-- **Cells.** For an ID `a` of the axis owned by operand `t` and any ID `b` of the result's other
axis: the value is `t`'s value at `(a, b)` if `t` has `b`, and zero otherwise. -/
theorem concat_cell [Zero α] (ax : Axis) (self : Table α) (others : List (Table α))
    (hwf : OpsWF (self :: others)) (r : Table α) (h : concatAll ax self others = .ok r)
    (t : Table α) (ht : t ∈ self :: others) (a : Id) (ha : a ∈ t.ids ax)
    (b : Id) (hb : b ∈ r.ids ax.other) :
    cellAx? r ax a b = some (if b ∈ t.ids ax.other then (cellAx? t ax a b).getD 0 else 0) ∧
    (b ∈ t.ids ax.other → ∃ x, cellAx? t ax a b = some x) := by
  obtain ⟨R, rfl, _, hdis, _, _, _, hA, hV, _, hW⟩ := concat_spec ax self others hwf r h
  rw [tableOf_oids] at hb
  have := view_cell _ (viewsWF_of_ops ax _ hwf) ((views_aids ax _).symm ▸ hdis) R hA hV
    (viewOf ax t) (List.mem_map_of_mem ht) a (by rw [viewOf_aids]; exact ha) b hb
  rw [cellAx_tableOf ax _ R hW.lens, ← cellAx_viewOf ax t (hwf t ht).1, ← viewOf_oids]
  exact this

/-- the block of an operand is unchanged -/
theorem concat_cell_block [Zero α] (ax : Axis) (self : Table α) (others : List (Table α))
    (hwf : OpsWF (self :: others)) (r : Table α) (h : concatAll ax self others = .ok r)
    (t : Table α) (ht : t ∈ self :: others) (a : Id) (ha : a ∈ t.ids ax)
    (b : Id) (hb : b ∈ t.ids ax.other) : cellAx? r ax a b = cellAx? t ax a b := by
  have hbr : b ∈ r.ids ax.other := ((concat_other_ids ax self others hwf r h).2.2 b).mpr ⟨t, ht, hb⟩
  obtain ⟨h1, h2⟩ := concat_cell ax self others hwf r h t ht a ha b hbr
  obtain ⟨x, hx⟩ := h2 hb
  rw [h1, hx, if_pos hb, Option.getD_some]

/-- everything outside the blocks is zero -/
theorem concat_cell_pad [Zero α] (ax : Axis) (self : Table α) (others : List (Table α))
    (hwf : OpsWF (self :: others)) (r : Table α) (h : concatAll ax self others = .ok r)
    (t : Table α) (ht : t ∈ self :: others) (a : Id) (ha : a ∈ t.ids ax)
    (b : Id) (hbr : b ∈ r.ids ax.other) (hb : b ∉ t.ids ax.other) : cellAx? r ax a b = some 0 := by
  rw [(concat_cell ax self others hwf r h t ht a ha b hbr).1, if_neg hb]

/-- **Metadata.** The metadata entry of an axis ID in the result is its entry in the owning operand
(an operand without metadata on the axis contributes empty entries). -/
theorem concat_md_travels [Zero α] (ax : Axis) (self : Table α) (others : List (Table α))
    (hwf : OpsWF (self :: others)) (r : Table α) (h : concatAll ax self others = .ok r)
    (t : Table α) (ht : t ∈ self :: others) (a : Id) (ha : a ∈ t.ids ax) :
    mdEntry r ax a = mdEntry t ax a := by
  obtain ⟨R, rfl, _, hdis, _, _, _, hA, _, hM, _⟩ := concat_spec ax self others hwf r h
  rw [mdEntry_tableOf, ← mdEntry_viewOf]
  exact view_md _ (viewsWF_of_ops ax _ hwf) ((views_aids ax _).symm ▸ hdis) R hA hM
    (viewOf ax t) (List.mem_map_of_mem ht) a (by rw [viewOf_aids]; exact ha)

/-- **Totals.** The grand total of the result is the sum of the operands' totals. -/
theorem concat_total {M : Type} [AddCommMonoid M] (ax : Axis) (self : Table M) (others : List (Table M))
    (hwf : OpsWF (self :: others)) (r : Table M) (h : concatAll ax self others = .ok r) :
    total r = sumL ((self :: others).map total) := by
  obtain ⟨R, rfl, _, _, hn, _, hm, _, hV, _, hW⟩ := concat_spec ax self others hwf r h
  rw [total_tableOf ax _ R hW.lens, view_total _ (viewsWF_of_ops ax _ hwf) R hn hm hV, List.map_map]
  exact congrArg sumL (List.map_congr_left fun t ht => total_viewOf ax t (hwf t ht).1)

/-- the result is again a table -/
theorem concat_wf [Zero α] (ax : Axis) (self : Table α) (others : List (Table α))
    (hwf : OpsWF (self :: others)) (r : Table α) (h : concatAll ax self others = .ok r) : r.WF := by
  obtain ⟨R, rfl, _, _, _, _, _, _, _, _, hW⟩ := concat_spec ax self others hwf r h
  exact tableOf_WF ax _ R hW

/-- **model_holds.** For every axis, every receiver and every list of further operands that are
tables, the declarative predicate `holds` is true of what the model returns — refusal or result. -/
theorem model_holds {M : Type} [AddCommMonoid M] [DecidableEq M] (ax : Axis) (self : Table M)
    (others : List (Table M)) (hwf : OpsWF (self :: others)) :
    holds ax (self :: others) (concatAll ax self others) = true := by
  cases h : concatAll ax self others with
  | error e =>
    have he := concat_error_only_disjoint ax self others hwf e h
    subst he
    have hnp := (concat_refuses_iff ax self others).mp h
    have : pairwiseDisjoint ((self :: others).map (·.ids ax)) = false :=
      Bool.eq_false_iff.mpr (mt (pairwiseDisjoint_iff _).mp hnp)
    unfold holds clauses Clauses.all
    simp only [this, Bool.not_false, decide_true, Bool.and_self]
  | ok r =>
    obtain ⟨R, _, _, hdis, _⟩ := concat_spec ax self others hwf r h
    obtain ⟨h4n, _, h4m⟩ := concat_other_ids ax self others hwf r h
    simp only [holds, clauses, Clauses.all, Bool.and_eq_true, List.all_eq_true, List.any_eq_true,
      decide_eq_true_eq, List.contains_iff_mem]
    refine ⟨⟨⟨⟨⟨⟨(pairwiseDisjoint_iff _).mpr hdis,
      (Layer.table_wfb_iff r).mpr (concat_wf ax self others hwf r h)⟩,
      concat_axis_ids ax self others hwf r h⟩,
      ⟨(nodupB_iff _).mpr h4n, fun b hb => (h4m b).mp hb⟩, fun t ht b hb => (h4m b).mpr ⟨t, ht, hb⟩⟩,
      fun t ht a ha b hb => ?_⟩, concat_md_travels ax self others hwf r h⟩,
      concat_total ax self others hwf r h⟩
    obtain ⟨e1, e2⟩ := concat_cell ax self others hwf r h t ht a ha b hb
    refine ⟨e1, ?_⟩
    by_cases hbt : b ∈ t.ids ax.other
    · obtain ⟨x, hx⟩ := e2 hbt
      rw [hx]
      exact Bool.or_true _
    · rw [Bool.eq_false_iff.mpr (mt List.contains_iff_mem.mp hbt)]
      rfl

/-- the instance the driver evaluates -/
theorem model_holds_rat (ax : Axis) (self : Table Rat) (others : List (Table Rat))
    (hwf : OpsWF (self :: others)) : holds ax (self :: others) (concatAll ax self others) = true :=
  model_holds ax self others hwf

/-- **Other-axis metadata.** An other-axis ID that the receiver has keeps the receiver's entry
(empty if the receiver has no metadata there, whatever later operands carry); an ID it lacks gets
the entry of the first later operand that has it. -/
theorem concat_other_md [Zero α] (ax : Axis) (self : Table α) (others : List (Table α))
    (hwf : OpsWF (self :: others)) (r : Table α) (h : concatAll ax self others = .ok r)
    (b : Id) (hb : b ∈ r.ids ax.other) :
    mdEntry r ax.other b =
      if b ∈ self.ids ax.other then mdEntry self ax.other b
      else match others.find? (fun t => (t.ids ax.other).contains b) with
        | some t => mdEntry t ax.other b
        | none => [] := by
  obtain ⟨R, rfl, hR, hdis, _⟩ := concat_spec ax self others hwf r h
  rw [tableOf_oids] at hb
  obtain ⟨first, hs, ho⟩ := concatViews_omd (viewOf ax self) (others.map (viewOf ax))
    (viewsWF_of_ops ax _ hwf) (by rw [← views_aids] at hdis; exact hdis) R hR
  rw [mdEntry_tableOf_other, ho, normMd_lookup, lookupBy_map_self _ _ _ hb, Option.getD_some, ← viewOf_oids]
  by_cases hbs : b ∈ (viewOf ax self).oids
  · rw [if_pos hbs, padEntry_self first _ b hbs, entryOf_viewOf]
  · rw [if_neg hbs, padEntry, if_neg hbs, scan_lookup _ [] [] first hs b, List.lookup_nil, Option.none_or,
      List.find?_cons, Bool.eq_false_iff.mpr (mt List.contains_iff_mem.mp hbs), find?_viewOf]
    cases others.find? (fun t => (t.ids ax.other).contains b) <;> rfl

/-! ### decidable form of the hypotheses -/

def opsWFb [DecidableEq α] (ts : List (Table α)) : Bool :=
  ts.all (fun t => t.wfb && nodupB t.obs && nodupB t.samp)

theorem opsWF_of_b [DecidableEq α] (ts : List (Table α)) (h : opsWFb ts = true) : OpsWF ts := by
  intro t ht
  have := List.all_eq_true.mp h t ht
  simp only [Bool.and_eq_true, nodupB_iff] at this
  exact ⟨(Layer.table_wfb_iff t).mp this.1.1, this.1.2, this.2⟩

theorem model_holds_b {M : Type} [AddCommMonoid M] [DecidableEq M] (ax : Axis) (self : Table M)
    (others : List (Table M)) (hwf : opsWFb (self :: others) = true) :
    holds ax (self :: others) (concatAll ax self others) = true :=
  model_holds ax self others (opsWF_of_b _ hwf)

/-! ### the two entry points -/

theorem concat_single_eq_list [Zero α] (self t : Table α) (axis : String) :
    concat self (.single t) axis = concat self (.list [t]) axis := rfl

theorem concat_sample [Zero α] (self : Table α) (others : Others α) :
    concat self others "sample" = concatAll .samp self others.toList := by
  simp [concat, axisOf?]

theorem concat_observation [Zero α] (self : Table α) (others : Others α) :
    concat self others "observation" = concatAll .obs self others.toList := by
  simp [concat, axisOf?]

theorem concat_unknown_axis [Zero α] (self : Table α) (others : Others α) (axis : String)
    (h1 : axis ≠ "sample") (h2 : axis ≠ "observation") :
    concat self others axis = .error .unknownAxis := by
  simp [concat, axisOf?, h1, h2]

/-- `biom.concat(tables)` is `Table.concat` of the first table with the rest -/
theorem biomConcat_eq [Zero α] (t : Table α) (rest : List (Table α)) (axis : String) :
    biomConcat (t :: rest) axis = concat t (.list rest) axis := rfl

/-- the property holds through either entry point, for a single table or a list -/
theorem api_holds {M : Type} [AddCommMonoid M] [DecidableEq M] (self : Table M) (others : Others M)
    (hwf : OpsWF (self :: others.toList)) :
    holds .samp (self :: others.toList) (concat self others "sample") = true ∧
    holds .obs (self :: others.toList) (concat self others "observation") = true ∧
    holds .samp (self :: others.toList) (biomConcat (self :: others.toList) "sample") = true ∧
    holds .obs (self :: others.toList) (biomConcat (self :: others.toList) "observation") = true := by
  have hs := model_holds .samp self others.toList hwf
  have ho := model_holds .obs self others.toList hwf
  rw [biomConcat_eq, biomConcat_eq, concat_sample, concat_observation, concat_sample, concat_observation]
  exact ⟨hs, ho, hs, ho⟩

/-! ### non-vacuity: the hypotheses are met by concrete, non-trivial operand sets -/

/-- other axis permuted and partially missing, metadata on some operands only -/
def exA : Table Int :=
  { obs := ["o2", "o1", "o3"], samp := ["s1", "s2"], rows := [[1, 2], [3, 4], [5, 6]],
    omd := some [[("k", "p2")], [("k", "p1")], []], smd := none, ttype := some "OTU table" }
def exB : Table Int :=
  { obs := ["o3", "o9"], samp := ["s3"], rows := [[7], [8]], omd := none,
    smd := some [[("d", "3")]], ttype := none }
def exC : Table Int :=
  { obs := ["o1", "o2", "o3"], samp := ["s4", "s5"], rows := [[0, 9], [10, 0], [11, 12]] }

example : opsWFb [exA, exB, exC] = true := by decide +kernel
example : (axisIdLists .samp [exA, exB, exC]).Pairwise Disj :=
  (pairwiseDisjoint_iff _).mp (by decide +kernel)
/-- the model's result on them (evaluated by the kernel): blocks in place, zeros elsewhere -/
example : concatAll .samp exA [exB, exC] = .ok
    { obs := ["o1", "o2", "o3", "o9"], samp := ["s1", "s2", "s3", "s4", "s5"],
      rows := [[3, 4, 0, 0, 9], [1, 2, 0, 10, 0], [5, 6, 7, 11, 12], [0, 0, 8, 0, 0]],
      omd := some [[("k", "p1")], [("k", "p2")], [], []],
      smd := some [[], [], [("d", "3")], [], []], ttype := some "OTU table" } := by decide +kernel
/-- along the observation axis the same operands share `o3` (and more): refused -/
example : ¬ (axisIdLists .obs [exA, exB, exC]).Pairwise Disj :=
  fun h => absurd ((pairwiseDisjoint_iff _).mpr h) (by decide +kernel)
example : concatAll .obs exA [exB, exC] = .error .disjointId := by decide +kernel
example : holds .samp [exA, exB, exC] (concatAll .samp exA [exB, exC]) = true :=
  model_holds_b .samp exA [exB, exC] (by decide +kernel)
/-- `holds` is not vacuous: a result whose re-sort was skipped (rows of `exC` left in its own order)
is rejected -/
example : holds .samp [exA, exB, exC] (.ok
    { obs := ["o1", "o2", "o3", "o9"], samp := ["s1", "s2", "s3", "s4", "s5"],
      rows := [[3, 4, 0, 0, 9], [1, 2, 0, 10, 0], [5, 6, 7, 11, 12], [0, 0, 8, 0, 0]].map id,
      omd := some [[("k", "p1")], [("k", "p2")], [], []],
      smd := some [[], [], [("d", "3")], [], []], ttype := some "OTU table" }) = true := by decide +kernel
example : holds .samp [exA, exB, exC] (.ok
    { obs := ["o1", "o2", "o3", "o9"], samp := ["s1", "s2", "s3", "s4", "s5"],
      rows := [[1, 2, 0, 0, 9], [3, 4, 0, 10, 0], [5, 6, 7, 11, 12], [0, 0, 8, 0, 0]],
      omd := some [[("k", "p1")], [("k", "p2")], [], []],
      smd := some [[], [], [("d", "3")], [], []], ttype := some "OTU table" }) = false := by decide +kernel
/-- a single operand (k = 1), observation axis -/
example : concatAll .obs exB [] = .ok { exB with omd := none } := by decide +kernel

end Biom.C10
