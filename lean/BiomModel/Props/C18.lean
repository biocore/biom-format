/-
  C18 — property theorems.  Every statement is for EVERY table (any shape, any values, any IDs),
  EVERY mapping (any overlap with the table's IDs), every key list and every file of the row grammar.
-/
import BiomModel.Lemmas.C18

namespace Biom.C18

variable {α : Type}

/-! ## add_metadata -/

/-- decidable well-formedness of an update: one metadata entry per ID on the axis (when it has
    metadata), the mapping is a dict (distinct IDs) of dicts (distinct keys) -/
def addWF (t : Table α) (m : List (Id × Md)) (ax : Axis) : Bool :=
  mdShape t ax && decide (dkeys m).Nodup && m.all (fun ie => decide (dkeys ie.2).Nodup)

theorem addWF_spec (t : Table α) (m : List (Id × Md)) (ax : Axis) (h : addWF t m ax = true) :
    mdShape t ax = true ∧ (dkeys m).Nodup ∧ ∀ ie ∈ m, (dkeys ie.2).Nodup := by
  rw [addWF, Bool.and_eq_true, Bool.and_eq_true, decide_eq_true_eq, List.all_eq_true] at h
  exact ⟨h.1.1, h.1.2, fun ie hie => of_decide_eq_true (h.2 ie hie)⟩

/-- **addMd_spec** — for every ID of the axis and every key: the value after `add_metadata` is the
    mapping's value when the mapping names this ID and this key (same-named keys are overwritten),
    and the previous value otherwise (other keys kept, IDs the mapping does not name untouched;
    mapping IDs that are not in the table have no effect on any table ID). -/
theorem addMd_spec (t : Table α) (m : List (Id × Md)) (ax : Axis) (hwf : addWF t m ax = true)
    (id : Id) (hid : id ∈ t.ids ax) (k : String) :
    keyOf (addMetadata t m ax) ax id k = addExpected t m ax id k := by
  obtain ⟨hshape, hm, hk⟩ := addWF_spec t m ax hwf
  rw [keyOf_eq, md_addMetadata_same, ids_addMetadata, keyIn_castMd, keyIn_some]
  unfold addExpected addPre
  rw [keyOf_eq]
  cases hmd : t.md ax with
  | none =>
    -- every ID gets the mapping's entry, or an empty one
    simp only [List.map_map, Function.comp_def]
    rw [lookupBy_map_self _ _ _ hid]
    cases dget m id with
    | none => rfl
    | some e =>
      show dget e k = match dget e k with | some v => some v | none => none
      cases dget e k <;> rfl
  | some mds =>
    rw [mdShape, hmd, beq_iff_eq] at hshape
    obtain ⟨old, hold⟩ := lookupBy_isSome (t.ids ax) mds id (Nat.le_of_eq hshape.symm) hid
    simp only [map_getD_map_some]
    rw [lookupBy_fold_updStep _ _ _ _ hm, keyIn_some, hold]
    cases hd : dget m id with
    | none => rfl
    | some e =>
      show dget (dictUpdate old e) k = match dget e k with | some v => some v | none => dget old k
      rw [dget_dictUpdate_nodup old e k (hk (id, e) (dget_mem m id e hd))]
      cases dget e k <;> rfl

/-- `_cast_metadata` leaves the other axis as it is (a real table never holds a tuple of empty entries there) -/
theorem addMd_other_axis (t : Table α) (m : List (Id × Md)) (ax : Axis) (h : mdInformative (t.md ax.other) = true) :
    (addMetadata t m ax).md ax.other = t.md ax.other := by
  rw [md_addMetadata_other]
  cases hmd : t.md ax.other with
  | none => rfl
  | some mds =>
    simp only [hmd, mdInformative, Bool.not_eq_true'] at h
    simp only [Option.map_some, castMd_map_some, h, Bool.false_eq_true, if_false]

theorem mdShape_iff (t : Table α) (ax : Axis) :
    mdShape t ax = true ↔ ∀ mds, t.md ax = some mds → mds.length = (t.ids ax).length := by
  unfold mdShape
  cases t.md ax with
  | none => exact ⟨fun _ _ h => (nomatch h), fun _ => rfl⟩
  | some mds => exact ⟨fun h _ e => by cases e; exact beq_iff_eq.mp h, fun h => beq_iff_eq.mpr (h mds rfl)⟩

theorem length_addPre (t : Table α) (m : List (Id × Md)) (ax : Axis) (h : mdShape t ax = true) :
    (addPre t m ax).length = (t.ids ax).length := by
  rw [mdShape_iff] at h
  unfold addPre
  cases hmd : t.md ax with
  | none => exact List.length_map _
  | some mds => exact (List.length_map _).trans ((fold_updStep_length _ _ _).trans (h mds hmd))

theorem mdShape_addMetadata (t : Table α) (m : List (Id × Md)) (ax : Axis) (h : mdShape t ax = true) :
    mdShape (addMetadata t m ax) ax = true := by
  refine (mdShape_iff _ _).mpr fun mds hmds => ?_
  rw [md_addMetadata_same, castMd_some] at hmds
  split at hmds
  · cases hmds
  · cases hmds
    rw [ids_addMetadata, List.length_map, length_addPre t m ax h]

/-- unknown IDs are ignored: an ID that is not on the axis has no metadata afterwards either -/
theorem addMd_unknown_ignored (t : Table α) (m : List (Id × Md)) (ax : Axis) (id : Id) (hid : id ∉ t.ids ax)
    (k : String) : keyOf (addMetadata t m ax) ax id k = none := by
  rw [keyOf_eq, ids_addMetadata]
  exact keyIn_of_not_mem _ _ id k hid

theorem addMd_holds (t : Table α) [DecidableEq α] (m : List (Id × Md)) (ax : Axis) (hwf : addWF t m ax = true)
    (ho : mdInformative (t.md ax.other) = true) : addHolds t m ax (addMetadata t m ax) = true := by
  rw [addHolds, addAxisClause, frameSame_of_eq _ _ (frame_addMetadata t m ax),
    mdShape_addMetadata t m ax (addWF_spec t m ax hwf).1, addMd_other_axis t m ax ho, decide_eq_true rfl,
    Bool.and_true, Bool.true_and, Bool.true_and, List.all_eq_true]
  intro id hid
  rw [List.all_eq_true]
  intro k _
  exact beq_iff_eq.mpr (addMd_spec t m ax hwf id hid k)

/-! ## del_metadata -/

theorem delAxis_some (ks : List String) (mds : List Md) :
    delAxis ks (some mds) =
      if !(mds.map (fun e => ks.foldl dictDel e)).isEmpty && (mds.map (fun e => ks.foldl dictDel e)).all (·.isEmpty)
      then none else some (mds.map (fun e => ks.foldl dictDel e)) := rfl

theorem keyIn_delAxis (ks : List String) (md : Option (List Md)) (ids : List Id) (id : Id) (k : String) :
    keyIn ids (delAxis ks md) id k = if k ∈ ks then none else keyIn ids md id k := by
  cases md with
  | none => exact (ite_self _).symm
  | some mds =>
    have hmap : keyIn ids (some (mds.map (fun e => ks.foldl dictDel e))) id k =
        if k ∈ ks then none else keyIn ids (some mds) id k := by
      rw [keyIn_some, keyIn_some, lookupBy_map]
      cases lookupBy ids mds id with
      | none => exact (ite_self _).symm
      | some e => exact dget_foldl_dictDel ks e k
    rw [← hmap, delAxis_some]
    split
    · rename_i hc
      exact (keyIn_of_all_empty ids _ (Bool.and_eq_true_iff.mp hc).2 id k).symm
    · rfl

theorem keyIn_delOn (keys : Option (List String)) (md : Option (List Md)) (ids : List Id) (id : Id) (k : String) :
    keyIn ids (delOn keys md) id k =
      if (match keys with | none => true | some ks => ks.contains k) then none else keyIn ids md id k := by
  cases keys with
  | none => rfl
  | some ks => exact (keyIn_delAxis ks md ids id k).trans (by simp only [List.contains_iff_mem])

/-- an unrecognised axis is refused -/
theorem delMd_bad_axis (t : Table α) (keys : Option (List String)) :
    delMetadata t keys .bad = .error .unknownAxis := rfl

def delResult (t : Table α) (keys : Option (List String)) (arg : AxisArg) : Table α :=
  { t with omd := if arg.chosen .obs then delOn keys t.omd else t.omd,
           smd := if arg.chosen .samp then delOn keys t.smd else t.smd }

theorem delMetadata_ok (t : Table α) (keys : Option (List String)) (arg : AxisArg) (h : arg ≠ .bad) :
    delMetadata t keys arg = .ok (delResult t keys arg) := if_neg h

theorem delMetadata_eq_ok (t t' : Table α) (keys : Option (List String)) (arg : AxisArg)
    (h : delMetadata t keys arg = .ok t') : arg ≠ .bad ∧ t' = delResult t keys arg := by
  have hb : arg ≠ .bad := fun e => by rw [e, delMd_bad_axis] at h; cases h
  rw [delMetadata_ok t keys arg hb] at h
  cases h
  exact ⟨hb, rfl⟩

theorem md_delResult (t : Table α) (keys : Option (List String)) (arg : AxisArg) (ax : Axis) :
    (delResult t keys arg).md ax = if arg.chosen ax then delOn keys (t.md ax) else t.md ax := by
  cases ax <;> rfl

theorem ids_delResult (t : Table α) (keys : Option (List String)) (arg : AxisArg) (ax : Axis) :
    (delResult t keys arg).ids ax = t.ids ax := by
  cases ax <;> rfl

/-- **delMd_spec** — after `del_metadata(keys, axis)`: on a chosen axis the named keys (all keys when
    `keys` is None) are gone on every ID; every other (axis, ID, key) is as before. -/
theorem delMd_spec (t t' : Table α) (keys : Option (List String)) (arg : AxisArg)
    (h : delMetadata t keys arg = .ok t') (ax : Axis) (id : Id) (k : String) :
    keyOf t' ax id k = delExpected t keys arg ax id k := by
  obtain ⟨_, rfl⟩ := delMetadata_eq_ok t t' keys arg h
  rw [keyOf_eq, md_delResult, ids_delResult, delExpected.eq_def, keyOf_eq]
  cases arg.chosen ax with
  | false => rfl
  | true => exact keyIn_delOn keys (t.md ax) (t.ids ax) id k

theorem length_delAxis (ks : List String) (mds r : List Md) (hr : delAxis ks (some mds) = some r) :
    r.length = mds.length := by
  rw [delAxis_some] at hr
  split at hr
  · cases hr
  · cases hr; exact List.length_map _

theorem collapsed_delAxis (ks : List String) (md : Option (List Md)) : collapsed (delAxis ks md) = true := by
  cases md with
  | none => rfl
  | some mds =>
    rw [delAxis_some]
    split
    · rfl
    · rename_i hc
      generalize mds.map (fun e => ks.foldl dictDel e) = L at hc
      show (L.isEmpty || L.any (fun e => !e.isEmpty)) = true
      rw [← List.not_all_eq_any_not]
      revert hc
      cases L.isEmpty <;> cases L.all (·.isEmpty) <;> decide

/-- the collapse rule: with explicit keys a chosen axis ends up without metadata exactly when it had
    entries and every entry lost all its keys; with `keys=None` it always ends up without -/
theorem delMd_collapse (ks : List String) (mds : List Md) :
    delAxis ks (some mds) = none ↔ (mds ≠ [] ∧ ∀ e ∈ mds, ∀ k, dget e k ≠ none → k ∈ ks) := by
  have hiff : delAxis ks (some mds) = none ↔
      (!(mds.map (fun e => ks.foldl dictDel e)).isEmpty &&
        (mds.map (fun e => ks.foldl dictDel e)).all (·.isEmpty)) = true := by
    rw [delAxis_some]
    split
    · rename_i hc; exact ⟨fun _ => hc, fun _ => rfl⟩
    · rename_i hc; exact ⟨fun h => (nomatch h), fun h => absurd h hc⟩
  rw [hiff, Bool.and_eq_true, Bool.not_eq_true', List.isEmpty_eq_false_iff, ne_eq, List.map_eq_nil_iff,
    List.all_eq_true]
  refine and_congr_right fun _ => ⟨fun h e he => ?_, fun h x hx => ?_⟩
  · exact (foldl_dictDel_eq_nil_iff ks e).mp (List.isEmpty_iff.mp (h _ (List.mem_map_of_mem he)))
  · obtain ⟨e, he, rfl⟩ := List.mem_map.mp hx
    exact List.isEmpty_iff.mpr ((foldl_dictDel_eq_nil_iff ks e).mpr (h e he))

theorem mdShape_delResult (t : Table α) (keys : Option (List String)) (arg : AxisArg) (ax : Axis)
    (h : mdShape t ax = true) : mdShape (delResult t keys arg) ax = true := by
  rw [mdShape_iff] at h ⊢
  intro r hr
  rw [md_delResult] at hr
  rw [ids_delResult]
  split at hr
  · cases keys with
    | none => cases hr
    | some ks =>
      cases hmd : t.md ax with
      | none => rw [hmd] at hr; cases hr
      | some mds => rw [hmd] at hr; exact (length_delAxis ks mds r hr).trans (h mds hmd)
  · exact h r hr

theorem delAxisClause_ok (t : Table α) (keys : Option (List String)) (arg : AxisArg) (hb : arg ≠ .bad)
    (ax : Axis) (h : mdShape t ax = true) : delAxisClause t keys arg ax (delResult t keys arg) = true := by
  unfold delAxisClause
  simp only [Bool.and_eq_true, mdShape_delResult t keys arg ax h, true_and, List.all_eq_true, beq_iff_eq]
  refine ⟨fun id _ k _ => delMd_spec t _ keys arg (delMetadata_ok t keys arg hb) ax id k, ?_⟩
  rw [md_delResult]
  cases arg.chosen ax with
  | false => exact decide_eq_true rfl
  | true =>
    cases keys with
    | none => rfl
    | some ks => exact collapsed_delAxis ks (t.md ax)

theorem delMd_holds [DecidableEq α] (t : Table α) (keys : Option (List String)) (arg : AxisArg) (hb : arg ≠ .bad)
    (h : (mdShape t .obs && mdShape t .samp) = true) : delHolds t keys arg (delResult t keys arg) = true := by
  rw [Bool.and_eq_true] at h
  rw [delHolds, frameSame_of_eq t (delResult t keys arg) ⟨rfl, rfl, rfl, rfl⟩, delAxisClause_ok t keys arg hb .obs h.1,
    delAxisClause_ok t keys arg hb .samp h.2]
  rfl

/-! ## what neither operation touches -/

/-- **md_ops_frame** — neither operation changes the IDs, their order, any matrix value or the type -/
theorem md_ops_frame (t : Table α) (m : List (Id × Md)) (ax : Axis) (keys : Option (List String)) (arg : AxisArg) :
    ((addMetadata t m ax).obs = t.obs ∧ (addMetadata t m ax).samp = t.samp ∧
      (addMetadata t m ax).rows = t.rows ∧ (addMetadata t m ax).ttype = t.ttype) ∧
    (∀ t', delMetadata t keys arg = .ok t' →
      t'.obs = t.obs ∧ t'.samp = t.samp ∧ t'.rows = t.rows ∧ t'.ttype = t.ttype) := by
  refine ⟨frame_addMetadata t m ax, fun t' h => ?_⟩
  obtain ⟨_, rfl⟩ := delMetadata_eq_ok t t' keys arg h
  exact ⟨rfl, rfl, rfl, rfl⟩

/-- **store_others_unchanged** — in the model live tables are values in a store and an update
    replaces the receiver's slot: every other slot holds the table it held (the implementation's
    tables are objects that may share per-ID dicts; that they do not is checked on the real code by
    the `others-unchanged` clause of the correspondence, not proved). -/
theorem store_others_unchanged (f : Table α → Table α) (i j : Nat) (ts : List (Table α)) (h : j ≠ i) :
    (storeUpdate f i ts)[j]? = ts[j]? := by
  rw [storeUpdate, modifyAt_eq_modify, List.getElem?_modify]
  simp only [if_neg fun e : i = j => h e.symm]
  exact id_map _

/-! ## MetadataMap.from_file -/

/-- **fromFile_relation_wide** — for every file of the row grammar (`fileOkWide`: clean header names;
    `#` lines after the header are comments; blank lines; data rows of any length whose fields carry no
    tab and no quote inside, with blanks and quotes around them; non-empty ID not starting with `#`;
    rows may end in empty fields), under each of the four stripping modes, with or without a header
    override, and for EVERY per-column conversion: the loop over the rendered lines yields exactly the
    relation of the rows — or the refusal (no data rows, duplicated first column) the relation
    prescribes.  Where a row ends in empty fields the line-level strip removes the trailing tabs, the
    padding puts the empty texts back, and the dict is the same. -/
theorem fromFile_relation_wide {β : Type} (o : Opts) (hdr0 : List Str) (conv : Str → Str → β) (f : List GLine)
    (h : fileOkWide o hdr0 f = true) :
    fromFileC o hdr0 conv (f.map GLine.render) = relOf o hdr0 conv f := by
  obtain ⟨hfold, hne⟩ := foldl_file o hdr0 f h
  rw [fromFileC_eq o hdr0 conv _ _ _ hfold hne, relOf_eq]
  exact rowsDict_congr conv _ hne _ _ _ fun fs hfs =>
    take_parsedRow o _ fs (mem_fileRows_ok o f (fileOkWide_spec o hdr0 f h).1 fs hfs)

theorem fileOkWide_of_fileOk (o : Opts) (hdr0 : List Str) (f : List GLine) (h : fileOk o hdr0 f = true) :
    fileOkWide o hdr0 f = true := by
  rw [fileOk, Bool.and_eq_true] at h
  rw [fileOkWide, Bool.and_eq_true]
  exact ⟨List.all_eq_true.mpr fun l hl => okWide_of_ok o l (List.all_eq_true.mp h.1 l hl), h.2⟩

/-- **fromFile_relation** — the special case `fileOk`, where the last written field of every row is
    non-empty unless blanks are kept. -/
theorem fromFile_relation {β : Type} (o : Opts) (hdr0 : List Str) (conv : Str → Str → β) (f : List GLine)
    (h : fileOk o hdr0 f = true) :
    fromFileC o hdr0 conv (f.map GLine.render) = relOf o hdr0 conv f :=
  fromFile_relation_wide o hdr0 conv f (fileOkWide_of_fileOk o hdr0 f h)

/-- the same for a `process_fns` dict with the `except KeyError` default -/
theorem fromFile_relation_proc {β : Type} (o : Opts) (hdr0 : List Str) (proc : List (Str × (Str → β)))
    (dflt : Str → β) (f : List GLine) (h : fileOkWide o hdr0 f = true) :
    fromFile o hdr0 proc dflt (f.map GLine.render) = relOf o hdr0 (convOf proc dflt) f :=
  fromFile_relation_wide o hdr0 (convOf proc dflt) f h

theorem relOf_ok {β : Type} (o : Opts) (hdr0 : List Str) (conv : Str → Str → β) (f : List GLine)
    (m : Mapping β) (h : relOf o hdr0 conv f = .ok m) :
    m = ((fileRows f).map (rowVals o (fileHeader hdr0 f).length)).map
          (fun v => (v.headD [], entryOf conv (fileHeader hdr0 f) v)) ∧ (dkeys m).Nodup :=
  rowsDict_ok conv _ _ m h

/-- **fromFile_lookup** — the relation by lookups: when a file of the grammar is accepted and its
    column names are distinct, the dict holds, for every data row and every column `c ≥ 1` of the
    header, under the row's ID and the column's name, the conversion of the row's field `c`
    (the empty text when the row is shorter). -/
theorem fromFile_lookup {β : Type} (o : Opts) (hdr0 : List Str) (conv : Str → Str → β) (f : List GLine)
    (h : fileOkWide o hdr0 f = true) (m : Mapping β) (hm : fromFileC o hdr0 conv (f.map GLine.render) = .ok m)
    (hH : (fileHeader hdr0 f).tail.Nodup) (fs : List Field) (hfs : fs ∈ fileRows f)
    (i : Nat) (hi : i < (fileHeader hdr0 f).tail.length) :
    (dget m ((fs.map (Field.expect o)).headD [])).bind (fun e => dget e (fileHeader hdr0 f).tail[i]) =
      some (conv (fileHeader hdr0 f).tail[i] (((fs.map (Field.expect o))[i + 1]?).getD [])) := by
  rw [fromFile_relation_wide o hdr0 conv f h] at hm
  obtain ⟨rfl, hnd⟩ := relOf_ok o hdr0 conv f m hm
  have hmem : ((rowVals o (fileHeader hdr0 f).length fs).headD [],
      entryOf conv (fileHeader hdr0 f) (rowVals o (fileHeader hdr0 f).length fs)) ∈
      ((fileRows f).map (rowVals o (fileHeader hdr0 f).length)).map
        (fun v => (v.headD [], entryOf conv (fileHeader hdr0 f) v)) :=
    List.mem_map_of_mem (List.mem_map_of_mem hfs)
  have hlen : i + 1 < (fileHeader hdr0 f).length := by rw [List.length_tail] at hi; omega
  rw [← headD_pad (fileHeader hdr0 f).length, ← rowVals, dget_self_of_nodup _ _ _ hnd hmem, Option.bind_some,
    dget_entryOf conv _ _ hH i hi, List.getElem?_tail, rowVals, getElem?_pad _ _ _ hlen]
  rfl

/-! ## the options of the command -/

theorem dget_procUpdate (p : Proc) (fields : Option (List Str)) (f : Str → Val) (k : Str) :
    dget (procUpdate p fields f) k = if (fields.getD []).contains k then some f else dget p k := by
  cases fields with
  | none => rfl
  | some ks =>
    rw [procUpdate, dget_dictUpdate_const, Option.getD_some]
    by_cases h : k ∈ ks
    · rw [if_pos h, if_pos (List.contains_iff_mem.mpr h)]
    · rw [if_neg h, if_neg fun hc => h (List.contains_iff_mem.mp hc)]

theorem convOf_procUpdate (p : Proc) (fields : Option (List Str)) (f dflt : Str → Val) (k v : Str) :
    convOf (procUpdate p fields f) dflt k v =
      if (fields.getD []).contains k then f v else convOf p dflt k v := by
  rw [convOf, dget_procUpdate]
  by_cases h : (fields.getD []).contains k = true
  · rw [if_pos h, if_pos h]
  · rw [if_neg h, if_neg h]; rfl

/-- **procOf_priority** — the `process_fns` dict the command builds treats a column named under several
    options as: float over int over pipe-separated over semicolon-separated; any other column is kept
    as text. -/
theorem procOf_priority (c : CliOpts) (k v : Str) : convOf (procOf c) convIdent k v = convOfOpts c k v := by
  -- the update made last is looked at first
  rw [procOf, convOfOpts, convOf_procUpdate, convOf_procUpdate, convOf_procUpdate, convOf_procUpdate]
  rfl

/-! ## model_holds -/

theorem entryMatches_self (e : List (Str × String)) : entryMatches e e = true := by
  simp [entryMatches]

theorem mappingMatches_self (x : List (Str × List (Str × String))) (hn : (dkeys x).Nodup) :
    mappingMatches x x = true := by
  simp only [mappingMatches, beq_self_eq_true, Bool.true_and, Bool.and_eq_true, List.all_eq_true]
  constructor
  · intro ie hie
    rw [dget_self_of_nodup x ie.1 ie.2 hn hie]
    exact entryMatches_self _
  · intro ie hie
    rw [dget_self_of_nodup x ie.1 ie.2 hn hie]; rfl

theorem dkeys_textMapping (m : Mapping Val) : dkeys (textMapping m) = dkeys m := by
  simp [dkeys, textMapping]

theorem parseHolds_relOf (o : Opts) (hdr0 : List Str) (conv : Str → Str → Val) (f : List GLine) :
    parseHolds (relOf o hdr0 conv f) ((relOf o hdr0 conv f).map textMapping) = true := by
  cases hr : relOf o hdr0 conv f with
  | error e => rfl
  | ok m =>
    simp only [parseHolds, Except.map]
    apply mappingMatches_self
    rw [dkeys_textMapping]
    exact (relOf_ok o hdr0 conv f m hr).2

def inputWF : Input α → Bool
  | .add t m ax => addWF t m ax && mdInformative (t.md ax.other)
  | .del t _ _ => mdShape t .obs && mdShape t .samp
  | .parse o hdr0 _ f => fileOkWide o hdr0 f

/-- **model_holds** — the declarative predicate is true of what the model computes, for every update,
    every deletion and every file of the grammar. -/
theorem model_holds [DecidableEq α] (i : Input α) (h : inputWF i = true) : holds i (model i) = true := by
  cases i with
  | add t m ax =>
    simp only [inputWF, Bool.and_eq_true] at h
    exact addMd_holds t m ax h.1 h.2
  | del t keys arg =>
    by_cases hb : arg = .bad
    · subst hb; rfl
    · simp only [holds, model, delMetadata_ok t keys arg hb, delMd_holds t keys arg hb h, Bool.and_true]
      exact bne_iff_ne.mpr hb
  | parse o hdr0 proc f =>
    simp only [inputWF] at h
    simp only [holds, model, fromFile_relation_proc o hdr0 proc convIdent f h]
    exact parseHolds_relOf o hdr0 _ f

/-! ## the command -/

def relOpt (hdr : List Str) (c : CliOpts) : Option (List GLine) → Except Err (Option (Mapping Val))
  | some f => (relOf {} hdr (convOfOpts c) f).map some
  | none => .ok none

def addOpt (t : Table α) (m : Option (Mapping Val)) (ax : Axis) : Table α :=
  match m with
  | some m => addMetadata t (toMdMapping m) ax
  | none => t

/-- what the command is to do with two optional files of the grammar -/
def cliSpec (t : Table α) (sf of' : Option (List GLine)) (c : CliOpts) : Except Err (Table α) :=
  if sf.isNone && of'.isNone then .error .value
  else (relOpt (c.sampleHeader.getD []) c sf).bind (fun sm =>
       (relOpt (c.obsHeader.getD []) c of').bind (fun om =>
       .ok (addOpt (addOpt t sm .samp) om .obs)))

/-- the parse of one optional file as `_add_metadata` does it -/
def parseOpt (hdr : List Str) (c : CliOpts) : Option (List Str) → Except Err (Option (Mapping Val))
  | some ls => (fromFile {} hdr (procOf c) convIdent ls).map some
  | none => .ok none

/-- `_add_metadata` without the `do` notation -/
theorem addMetadataCli_eq (t : Table α) (sl ol : Option (List Str)) (c : CliOpts) :
    addMetadataCli t sl ol c =
      if sl.isNone && ol.isNone then .error .value
      else (parseOpt (c.sampleHeader.getD []) c sl).bind (fun sm =>
           (parseOpt (c.obsHeader.getD []) c ol).bind (fun om =>
           .ok (addOpt (addOpt t sm .samp) om .obs))) := by
  cases sl <;> cases ol <;> rfl

theorem parseOpt_render (hdr : List Str) (c : CliOpts) (sf : Option (List GLine))
    (hs : ∀ f, sf = some f → fileOkWide {} hdr f = true) :
    parseOpt hdr c (sf.map (·.map GLine.render)) = relOpt hdr c sf := by
  cases sf with
  | none => rfl
  | some f =>
    show (fromFile {} hdr (procOf c) convIdent (f.map GLine.render)).map some = _
    rw [fromFile_relation_proc _ _ _ _ f (hs f rfl), funext fun k => funext (procOf_priority c k)]
    rfl

/-- **cli_parses_then_adds** — `_add_metadata` on files of the grammar: refuse when no file is given
    or a file has no usable relation; otherwise hand the relation of each file (with the conversions
    the options select: `procOf_priority`) to `add_metadata`, samples first. -/
theorem cli_parses_then_adds (t : Table α) (sf of' : Option (List GLine)) (c : CliOpts)
    (hs : ∀ f, sf = some f → fileOkWide {} (c.sampleHeader.getD []) f = true)
    (ho : ∀ f, of' = some f → fileOkWide {} (c.obsHeader.getD []) f = true) :
    addMetadataCli t (sf.map (·.map GLine.render)) (of'.map (·.map GLine.render)) c = cliSpec t sf of' c := by
  rw [addMetadataCli_eq, parseOpt_render _ c sf hs, parseOpt_render _ c of' ho, Option.isNone_map, Option.isNone_map]
  rfl

/-! ## non-vacuity: the hypotheses are met by concrete, non-trivial inputs -/

section Examples

def exTable : Table Nat :=
  { obs := ["O1", "O2"], samp := ["S1", "S2", "S3"], rows := [[0, 1, 2], [3, 4, 5]],
    omd := some [[("taxonomy", "[\"k__A\"]")], [("taxonomy", "[\"k__B\"]")]],
    smd := some [[("barcode", "\"AT\""), ("env", "\"A\"")], [("barcode", "\"GG\""), ("env", "\"B\"")],
                 [("barcode", "\"CC\""), ("env", "\"A\"")]] }

def exMapping : List (Id × Md) := [("S2", [("env", "\"Z\""), ("pH", "7")]), ("nope", [("env", "\"Q\"")])]

example : inputWF (.add exTable exMapping .samp) = true := by decide +kernel
-- overwritten, added, kept, untouched ID, unknown ID ignored
example : keyOf (addMetadata exTable exMapping .samp) .samp "S2" "env" = some "\"Z\"" := by decide +kernel
example : keyOf (addMetadata exTable exMapping .samp) .samp "S2" "pH" = some "7" := by decide +kernel
example : keyOf (addMetadata exTable exMapping .samp) .samp "S2" "barcode" = some "\"GG\"" := by decide +kernel
example : keyOf (addMetadata exTable exMapping .samp) .samp "S1" "env" = some "\"A\"" := by decide +kernel
example : keyOf (addMetadata exTable exMapping .samp) .samp "nope" "env" = none := by decide +kernel
example : (addMetadata exTable exMapping .samp).samp = ["S1", "S2", "S3"] := by decide +kernel
-- an axis without metadata: IDs the mapping does not name get an empty entry
example : (addMetadata { exTable with smd := none } exMapping .samp).smd =
    some [[], [("env", "\"Z\""), ("pH", "7")], []] := by decide +kernel
example : (addMetadata { exTable with smd := none } [("nope", [("env", "\"Q\"")])] .samp).smd = none := by decide +kernel

example : inputWF (.del exTable (some ["env"]) .whole) = true := by decide +kernel
example : (delMetadata exTable (some ["env", "barcode"]) .sample).toOption.map (·.smd) = some none := by decide +kernel
example : (delMetadata exTable (some ["env"]) .whole).toOption.map (fun t => (keyOf t .samp "S1" "env",
    keyOf t .samp "S1" "barcode", keyOf t .obs "O1" "taxonomy")) = some (none, some "\"AT\"", some "[\"k__A\"]") := by
  decide +kernel
example : delMetadata exTable none .bad = .error .unknownAxis := delMd_bad_axis exTable none

/-- `#ID⇥A⇥B`, a comment, a blank line, a quoted and padded row, a short row -/
def exFile : List GLine :=
  [.blank [' ', '\n'],
   .header [['I', 'D'], ['A'], ['B']] ['\n'],
   .comment ['#', ' ', 'n', 'o', 't', 'e', '\n'],
   .row [⟨[], false, ['S', '1'], []⟩, ⟨[' '], true, ['1', '_', '0'], [' ']⟩, ⟨[], false, ['x', ';', 'y'], ['\n']⟩],
   .blank ['\n'],
   .row [⟨[], true, ['S', '2'], [' ']⟩, ⟨[], false, ['q'], ['\n']⟩]]

def exProc : Proc := [(['A'], convInt), (['B'], convSc)]

example : inputWF (α := Nat) (.parse {} [] exProc exFile) = true := by decide +kernel
example : fileOk { stripQuotes := false, suppress := true } [['I', 'D'], ['K']] exFile = false := by decide +kernel
example : (fromFile {} [] exProc convIdent (exFile.map GLine.render)).toOption =
    some [(['S', '1'], [(['A'], Val.int 10), (['B'], Val.list [['x'], ['y']])]),
          (['S', '2'], [(['A'], Val.str ['q']), (['B'], Val.list [[]])])] := by decide +kernel
-- header override selecting the first column only (the file's own header line is then a comment)
example : fileOk {} [['I', 'D'], ['K']] (exFile.map (fun l => match l with
    | .header n t => .comment (GLine.render (.header n t)) | l => l)) = true := by decide +kernel

end Examples

end Biom.C18
