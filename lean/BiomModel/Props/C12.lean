/-
  C12 — property theorems.  Every quantifier is unbounded: all count vectors (any length, any
  counts), all depths n ≥ 1, all generator answers that keep numpy's contract, all tables (any
  shape, any IDs), every well-formed sparse layout scipy may hand to the kernel.

  `walk_hist` (Lemmas/C12.lean) is the kernel theorem; the rest follows from it.
-/
import BiomModel.Lemmas.C12

deriving instance DecidableEq for Except

namespace Biom.C12

/-! ### the kernel, one vector -/

/-- exactly `n = chosen.length` counts are drawn -/
theorem walk_sum (counts chosen : List Nat) (hne : counts ≠ []) (hs : chosen.Pairwise (· ≤ ·))
    (hb : ∀ p ∈ chosen, p < counts.sum) :
    ∃ r, walk counts chosen = .ok r ∧ r.length = counts.length ∧ r.sum = chosen.length :=
  ⟨_, walk_hist counts chosen hne hs hb, hist_length _ _, hist_sum counts chosen hb⟩

/-- no entry receives more than it had (positions sorted and distinct) -/
theorem walk_le (counts chosen : List Nat) (hne : counts ≠ []) (hs : chosen.Pairwise (· < ·))
    (hb : ∀ p ∈ chosen, p < counts.sum) :
    ∃ r, walk counts chosen = .ok r ∧ ∀ k, r.getD k 0 ≤ counts.getD k 0 :=
  ⟨_, walk_hist counts chosen hne (hs.imp Nat.le_of_lt) hb, hist_le counts chosen (hs.imp Nat.ne_of_lt)⟩

/-- **kept ⇔ chosen**: unit `u` of entry `j` sits at position `prefix j + u`; entry `j` keeps as
many counts as it has units whose position was chosen.  With the generator's contract ("a uniform
`n`-subset of the positions") this is "each unit count is equally likely to be kept". -/
theorem kept_iff_chosen (counts chosen : List Nat) (hne : counts ≠ []) (hs : chosen.Pairwise (· < ·))
    (hb : ∀ p ∈ chosen, p < counts.sum) :
    ∃ r, walk counts chosen = .ok r ∧ ∀ j, j < counts.length →
      r.getD j 0 = ((List.range (counts.getD j 0)).filter (fun u => chosen.contains (prefixSum counts j + u))).length := by
  refine ⟨_, walk_hist counts chosen hne (hs.imp Nat.le_of_lt) hb, fun j hj => ?_⟩
  rw [List.getD_eq_getElem?_getD, hist_getElem? counts chosen j hj, Option.getD_some, ← List.countP_eq_length_filter,
    ← countP_interval_units chosen (hs.imp Nat.ne_of_lt), ← prefixSum_succ]
  rfl

/-- the kernel on a generator answer (any order, distinct, in range): the histogram -/
theorem subsampleVec_spec (n : Nat) (counts chosen : List Nat) (hn : 1 ≤ n) (hl : chosen.length = n)
    (hnd : chosen.Nodup) (hb : ∀ p ∈ chosen, p < counts.sum) :
    subsampleVec n counts chosen = .ok (hist counts chosen) ∧ (hist counts chosen).sum = n ∧
      ∀ k, (hist counts chosen).getD k 0 ≤ counts.getD k 0 := by
  have hne : counts ≠ [] := by
    intro he; subst he
    cases chosen with
    | nil => subst hl; exact absurd hn (Nat.lt_irrefl 0)
    | cons p ps => exact Nat.not_lt_zero _ (hb p List.mem_cons_self)
  exact ⟨subsampleVec_hist n counts chosen hne hl hb, by rw [hist_sum counts chosen hb, hl], hist_le counts chosen hnd⟩

/-! ### Table.subsample -/

theorem holds_without {t r : View} {n : Nat}
    (h : FinishOK t n (fun v => decide (n ≤ v.sum)) (fun a b => decide (a ≤ b)) r) :
    holds t n .without ⟨.ok r, t⟩ = true := by
  simp only [holds, clauses, List.all_cons, List.all_nil, List.cons_append, List.nil_append, Bool.and_true,
    Bool.and_eq_true, beq_iff_eq, decide_true, true_and]
  exact ⟨h.shape, h.oids, h.nonzero, h.ids, h.sums, h.cells⟩

theorem holds_withRepl {t r : View} {n : Nat}
    (h : FinishOK t n (fun v => decide (0 < v.sum)) (fun a b => a == 0 || decide (0 < b)) r) :
    holds t n .withRepl ⟨.ok r, t⟩ = true := by
  simp only [holds, clauses, List.all_cons, List.all_nil, List.cons_append, List.nil_append, Bool.and_true,
    Bool.and_eq_true, beq_iff_eq, decide_true, true_and]
  exact ⟨h.shape, h.oids, h.nonzero, h.ids, h.sums, h.cells⟩

theorem without_core (t : View) (lay : Lay) (n : Nat) (rng : Rng)
    (hwf : viewWF t = true) (hlay : layOK t lay = true) (hn : 1 ≤ n)
    (hrng : choicesOK n (lay.map (·.2)) rng.choices = true) :
    ∃ r, subsample t lay n .without rng = .ok r ∧
      FinishOK t n (fun v => decide (n ≤ v.sum)) (fun a b => decide (a ≤ b)) r := by
  obtain ⟨outs, hk, hol, hspec⟩ := kernelWithout_spec n hn _ _ hrng
  refine ⟨_, by rw [subsample, hk], ?_⟩
  exact finish_denseAfter hwf hlay hol fun i v o l hlv hl ho =>
    denseOK_without hn hlv (hspec i l.2 o hl ho)

/-- **without replacement**: on the model's observation the property's predicate is true — for every
table, layout, depth `n ≥ 1` and every generator answer within numpy's contract -/
theorem model_holds_without (t : View) (lay : Lay) (n : Nat) (rng : Rng)
    (hwf : viewWF t = true) (hlay : layOK t lay = true) (hn : 1 ≤ n)
    (hrng : choicesOK n (lay.map (·.2)) rng.choices = true) :
    holds t n .without (run t lay n .without rng) = true := by
  obtain ⟨r, hs, hr⟩ := without_core t lay n rng hwf hlay hn hrng
  rw [run, hs]
  exact holds_without hr

theorem withRepl_core (t : View) (lay : Lay) (n : Nat) (rng : Rng)
    (hwf : viewWF t = true) (hlay : layOK (dropEmpty t) lay = true) (hn : 1 ≤ n)
    (hrng : multisOK n (lay.map (·.2)) rng.multis = true) :
    ∃ r, subsample t lay n .withRepl rng = .ok r ∧
      FinishOK t n (fun v => decide (0 < v.sum)) (fun a b => a == 0 || decide (0 < b)) r := by
  have hpos : ∀ v ∈ lay.map (·.2), 0 < v.sum := fun v hv =>
    let ⟨l, hl, e⟩ := List.mem_map.mp hv
    e ▸ lay_pos_of_layOK _ lay hlay (dropEmpty_pos t) l hl
  obtain ⟨outs, hk, hol, hspec⟩ := kernelWith_spec n _ _ hrng hpos
  refine ⟨_, by rw [subsample, hk], FinishOK.of_dropEmpty hwf ?_⟩
  exact finish_denseAfter (dropEmpty_wf hwf) hlay hol fun i v o l hlv hl ho =>
    denseOK_with hn hlv (hpos l.2 (List.mem_of_getElem? hl)) (hspec i l.2 o hl ho)

/-- **with replacement** (FULL at table level): vectors without any count are dropped before the
kernel, every other vector sums to `n` and is non-zero only where the original was — for every table,
every layout of the filtered table, `n ≥ 1`, every multinomial answer within numpy's contract -/
theorem model_holds_withRepl (t : View) (lay : Lay) (n : Nat) (rng : Rng)
    (hwf : viewWF t = true) (hlay : layOK (dropEmpty t) lay = true) (hn : 1 ≤ n)
    (hrng : multisOK n (lay.map (·.2)) rng.multis = true) :
    holds t n .withRepl (run t lay n .withRepl rng) = true := by
  obtain ⟨r, hs, hr⟩ := withRepl_core t lay n rng hwf hlay hn hrng
  rw [run, hs]
  exact holds_withRepl hr

/-! ### by ID -/

theorem byId_mem {t : View} (n : Nat) {rng : Rng} (hp : rng.shuffled.Perm t.ids) (id : Id) :
    id ∈ t.ids.filter (fun id => (rng.shuffled.take n).contains id) ↔ id ∈ rng.shuffled.take n := by
  rw [List.mem_filter, List.contains_iff_mem]
  exact ⟨fun h => h.2, fun h => ⟨hp.subset ((List.take_sublist n _).subset h), h⟩⟩

theorem byId_length {t : View} (n : Nat) {rng : Rng} (hnid : t.ids.Nodup) (hp : rng.shuffled.Perm t.ids) :
    (t.ids.filter (fun id => (rng.shuffled.take n).contains id)).length = min n t.ids.length := by
  have hS : (rng.shuffled.take n).Nodup := (List.take_sublist n _).nodup (hp.nodup_iff.mpr hnid)
  rw [((List.perm_ext_iff_of_nodup (List.filter_sublist.nodup hnid) hS).mpr (byId_mem n hp)).length_eq,
    List.length_take, hp.length_eq]

theorem holds_byId {t r : View} {n : Nat} (h1 : r.wfb = true) (h2 : r.oids.isSublist t.oids = true)
    (h3 : (colSums r.oids.length r.vecs).all (fun s => decide (0 < s)) = true) (h4 : r.ids.isSublist t.ids = true)
    (h5 : r.ids.length = min n t.ids.length)
    (h6 : r.oids = filterMask t.oids
      ((colSums t.oids.length (r.ids.map (fun id => (t.vec? id).getD []))).map (fun s => decide (0 < s))))
    (h7 : cellsRel (fun a b => a == b) t r = true) : holds t n .byId ⟨.ok r, t⟩ = true := by
  simp only [holds, clauses, List.all_cons, List.all_nil, List.cons_append, List.nil_append, Bool.and_true,
    Bool.and_eq_true, beq_iff_eq, decide_true, true_and]
  exact ⟨h1, h2, h3, h4, h5, h6, h7⟩

/-- by ID: `min n N` IDs, in the original order, other-axis IDs exactly those still non-zero,
values unchanged — for every shuffle the generator may return -/
theorem model_holds_byId (t : View) (lay : Lay) (n : Nat) (rng : Rng)
    (hwf : viewWF t = true) (hperm : rng.shuffled.isPerm t.ids = true) :
    holds t n .byId (run t lay n .byId rng) = true := by
  obtain ⟨⟨hvl, hvr⟩, hnid, hnoid⟩ := (viewWF_iff t).mp hwf
  have hp : rng.shuffled.Perm t.ids := List.isPerm_iff.mp hperm
  have hrow' : ∀ v ∈ filterMask t.vecs (t.ids.map (fun id => (rng.shuffled.take n).contains id)),
      v.length = t.oids.length := fun v hv => hvr v (mem_filterMask _ _ _ hv)
  refine holds_byId (otherFilter_wfb (filterMask_length_eq t.vecs t.ids _ hvl) hrow')
    (otherFilter_sublist _ _ _) (otherFilter_nonzero _ _ _)
    (List.isSublist_iff_sublist.mpr (filterMask_sublist _ _)) ?_ ?_ ?_
  · rw [otherFilter_ids, filterMask_map_self]
    exact byId_length n hnid hp
  · rw [otherFilter_ids, otherFilter_oids]
    exact congrArg (fun d => filterMask t.oids ((colSums t.oids.length d).map (fun s => decide (0 < s))))
      (map_lookupBy_filterMask t.ids t.vecs _ [] hnid hvl.symm).symm
  · exact cellsRel_filters (dense := t.vecs) hwf rfl hvr fun i v d hv hd j =>
      Option.some.inj (hv.symm.trans hd) ▸ beq_self_eq_true _

/-- **all modes at once**; `pre` spells out every hypothesis (shape and distinct IDs, `n ≥ 1`, the
layout scipy hands to the kernel, numpy's contract for the generator's answers) -/
theorem model_holds (t : View) (lay : Lay) (n : Nat) (mode : Mode) (rng : Rng)
    (h : pre t lay n mode rng = true) : holds t n mode (run t lay n mode rng) = true := by
  cases mode <;> simp only [pre, Bool.and_eq_true, decide_eq_true_eq] at h
  · exact model_holds_without t lay n rng h.1.1 h.2.1 h.1.2 h.2.2
  · exact model_holds_withRepl t lay n rng h.1.1 h.2.1 h.1.2 h.2.2
  · exact model_holds_byId t lay n rng h.1.1 h.2

/-- the kernel itself still needs its guard (`kernelWith_spec`: every vector has a positive total):
handed a vector without any stored entry, `biom.subsample(arr, n, True, rng)` raises, because numpy's
multinomial refuses an empty probability vector — whatever the generator would have answered -/
theorem kernelWith_empty_vector_witness (ms : List (List Nat)) :
    kernelWith [[], [1, 2]] ms = .error .value := rfl

/-- the input that used to raise (`Table([[0,1],[0,2]]).subsample(2, with_replacement=True)`, sample
axis): the all-zero sample is dropped before the kernel, the other one is resampled -/
theorem withRepl_empty_vector_repaired :
    let t : View := { ids := ["x", "y"], oids := ["a", "b"], vecs := [[0, 0], [1, 2]] }
    let lay : Lay := [([0, 1], [1, 2])]
    let rng : Rng := { multis := [[1, 1]] }
    pre t lay 2 .withRepl rng = true ∧
      (run t lay 2 .withRepl rng).result = .ok { ids := ["y"], oids := ["a", "b"], vecs := [[1, 1]] } := by
  decide +kernel

/-! ### the property's sentences, one by one -/

/-- "exactly the vectors whose total was at least n are retained" -/
theorem retained_iff_total_ge_n (t : View) (lay : Lay) (n : Nat) (rng : Rng)
    (hwf : viewWF t = true) (hlay : layOK t lay = true) (hn : 1 ≤ n)
    (hrng : choicesOK n (lay.map (·.2)) rng.choices = true) :
    ∃ r, subsample t lay n .without rng = .ok r ∧
      ∀ id, id ∈ r.ids ↔ id ∈ t.ids ∧ n ≤ t.total id := by
  obtain ⟨r, hs, hr⟩ := without_core t lay n rng hwf hlay hn hrng
  refine ⟨r, hs, fun id => ?_⟩
  rw [hr.ids, List.mem_filter, decide_eq_true_eq]
  rfl

/-- "every retained vector sums to exactly n, every entry is a natural not exceeding the original" -/
theorem without_sum_and_bound (t : View) (lay : Lay) (n : Nat) (rng : Rng)
    (hwf : viewWF t = true) (hlay : layOK t lay = true) (hn : 1 ≤ n)
    (hrng : choicesOK n (lay.map (·.2)) rng.choices = true) :
    ∃ r, subsample t lay n .without rng = .ok r ∧ (∀ v ∈ r.vecs, v.sum = n) ∧
      ∀ id ∈ r.ids, ∀ o ∈ r.oids, ∃ a b, r.cell? id o = some a ∧ t.cell? id o = some b ∧ a ≤ b := by
  obtain ⟨r, hs, hr⟩ := without_core t lay n rng hwf hlay hn hrng
  refine ⟨r, hs, fun v hv => eq_of_beq (List.all_eq_true.mp hr.sums v hv), fun id hid o ho => ?_⟩
  obtain ⟨a, b, ha, hb, hab⟩ := (cellsRel_iff _ t r).mp hr.cells id hid o ho
  exact ⟨a, b, ha, hb, of_decide_eq_true hab⟩

theorem subsample_other_axis {t : View} {lay : Lay} {n : Nat} {mode : Mode} {rng : Rng} {r : View}
    (h : subsample t lay n mode rng = .ok r) :
    r.oids.Sublist t.oids ∧ ∀ s ∈ colSums r.oids.length r.vecs, 0 < s := by
  have key : ∀ (ids : List Id) (d : List (List Nat)), .ok (otherFilter ids t.oids d) = Except.ok (ε := Err) r →
      r.oids.Sublist t.oids ∧ ∀ s ∈ colSums r.oids.length r.vecs, 0 < s := by
    intro ids d e
    cases e
    exact ⟨List.isSublist_iff_sublist.mp (otherFilter_sublist _ _ _), fun s hs =>
      of_decide_eq_true (List.all_eq_true.mp (otherFilter_nonzero ids t.oids d) s hs)⟩
  cases mode with
  | byId => exact key _ _ h
  | without | withRepl =>
    rw [subsample] at h
    split at h
    · cases h
    · exact key _ _ h

/-- "vectors of the other axis left all-zero are dropped": whatever the mode, no vector of the
other axis of a returned table is all-zero, and the other axis keeps its order -/
theorem other_axis_empty_dropped (t : View) (lay : Lay) (n : Nat) (mode : Mode) (rng : Rng) (r : View)
    (hwf : viewWF t = true) (hlay : mode ≠ .byId → layOK t lay = true)
    (h : subsample t lay n mode rng = .ok r) :
    r.oids.Sublist t.oids ∧ ∀ s ∈ colSums r.oids.length r.vecs, 0 < s :=
  subsample_other_axis h

/-- "Subsampling by ID keeps min(n, N) IDs": exactly the first `n` of the shuffled IDs, in the
table's order -/
theorem byId_keeps_min (t : View) (lay : Lay) (n : Nat) (rng : Rng)
    (hwf : viewWF t = true) (hperm : rng.shuffled.isPerm t.ids = true) :
    ∃ r, subsample t lay n .byId rng = .ok r ∧ r.ids.length = min n t.ids.length ∧ r.ids.Sublist t.ids ∧
      ∀ id, id ∈ r.ids ↔ id ∈ rng.shuffled.take n := by
  have hp : rng.shuffled.Perm t.ids := List.isPerm_iff.mp hperm
  refine ⟨_, rfl, ?_, filterMask_sublist _ _, fun id => ?_⟩
  · rw [otherFilter_ids, filterMask_map_self]
    exact byId_length n ((viewWF_iff t).mp hwf).2.1 hp
  · rw [otherFilter_ids, filterMask_map_self]
    exact byId_mem n hp id

/-- "the same seed reproduces the same result": the result is a function of the generator's answers -/
theorem deterministic_in_rng_output (t : View) (lay : Lay) (n : Nat) (mode : Mode) (r1 r2 : Rng)
    (h : r1 = r2) : run t lay n mode r1 = run t lay n mode r2 := by rw [h]

/-- "the input table is never modified" (the model works on the copy; the harness checks the real table) -/
theorem input_unchanged (t : View) (lay : Lay) (n : Nat) (mode : Mode) (rng : Rng) :
    (run t lay n mode rng).after = t := rfl

/-! ### the hypotheses are met by concrete, non-trivial inputs -/

/-- the 4x3 table of the repaired defect along observations, n = 3, the generator's answers of seed 1 -/
def exT : View := { ids := ["a", "b", "c", "d"], oids := ["x", "y", "z"], vecs := [[1, 2, 0], [2, 1, 3], [3, 3, 4], [0, 2, 1]] }
def exLay : Lay := [([0, 1], [1, 2]), ([0, 1, 2], [2, 1, 3]), ([0, 1, 2], [3, 3, 4]), ([1, 2], [2, 1])]
def exRng : Rng := { choices := [[0, 1, 2], [3, 4, 0], [1, 7, 9], [0, 1, 2]] }

example : viewWF exT = true ∧ layOK exT exLay = true ∧ choicesOK 3 (exLay.map (·.2)) exRng.choices = true := by
  decide +kernel

example : subsample exT exLay 3 .without exRng =
    .ok { ids := ["a", "b", "c", "d"], oids := ["x", "y", "z"], vecs := [[1, 2, 0], [1, 0, 2], [1, 0, 2], [0, 2, 1]] } := by
  decide +kernel

/-- a vector below n is dropped, and the other axis loses the IDs left without counts -/
example : subsample exT exLay 4 .without { choices := [[4, 0, 1, 3], [7, 1, 0, 6]] } =
    .ok { ids := ["b", "c"], oids := ["x", "z"], vecs := [[2, 2], [2, 2]] } := by
  decide +kernel

example : choicesOK 4 (exLay.map (·.2)) [[4, 0, 1, 3], [7, 1, 0, 6]] = true := by decide +kernel

example : walk [3, 0, 2, 4] [0, 2, 3, 8] = .ok [2, 0, 1, 1] := by decide +kernel
example : walk [3, 0, 2, 4] [4, 5, 6, 7, 8] = .ok [0, 0, 1, 4] := by decide +kernel
/-- a position outside the vector makes the checked read fail: the hypothesis of `walk_hist` is needed -/
example : walk [3, 0, 2, 4] [8, 9] = .error .index := by decide +kernel

example : multisOK 2 [[1, 2], [5]] [[0, 2], [2]] = true ∧
    subsample { ids := ["x", "y"], oids := ["a", "b"], vecs := [[1, 2], [0, 5]] } [([0, 1], [1, 2]), ([1], [5])] 2 .withRepl
      { multis := [[0, 2], [2]] } = .ok { ids := ["x", "y"], oids := ["b"], vecs := [[2], [2]] } := by
  decide +kernel

example : (["z", "x", "y"] : List Id).isPerm ["x", "y", "z"] = true ∧
    subsample { ids := ["x", "y", "z"], oids := ["a", "b"], vecs := [[0, 0], [1, 2], [0, 0]] } [] 2 .byId
      { shuffled := ["z", "x", "y"] } = .ok { ids := ["x", "z"], oids := [], vecs := [[], []] } := by
  decide +kernel

end Biom.C12
