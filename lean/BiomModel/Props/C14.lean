/-
  C14 — property theorems.  Each reader equals load-all-then-filter on its domain (`h5subset_eq`,
  `h5nomd_eq`, `parseH5_eq`, `json_subset_eq`, `cmd_json_eq` through `slice_eq`) and refuses what it is
  documented to refuse; `holds` is true of load-all-then-filter (`spec_holds`), hence of every model
  (`model_holds*`, through `holds_of_model`).  Then the raw-text slicer at field level, the witnesses
  of the scanner's defects, and concrete inputs that meet the hypotheses.
-/
import BiomModel.Lemmas.C14

namespace Biom.C14

variable {α : Type}

/-! ## HDF5 -/

/-- what the theorems assume of the file (established for written files by C04) -/
structure H5.WF (f : H5 α) (ax : Axis) : Prop where
  shapeObs : f.shape.1 = f.obs.ids.length
  shapeSamp : f.shape.2 = f.samp.ids.length
  cs : (csOf f ax).WF
  nodup : (f.grp ax).ids.Nodup
  omdLen : ∀ m, f.obs.md = some m → m.length = f.obs.ids.length
  smdLen : ∀ m, f.samp.md = some m → m.length = f.samp.ids.length

theorem H5.WF.dim {f : H5 α} {ax : Axis} (h : H5.WF f ax) (a : Axis) :
    dimOf f.shape a = (f.grp a).ids.length := by
  cases a
  · exact h.shapeObs
  · exact h.shapeSamp

theorem getIds_none (src : List Id) : getIds src none = .ok (src, src.map (fun _ => true)) := rfl

theorem getIds_some (src req : List Id) :
    getIds src (some req) =
      if (src.filter (fun i => req.contains i)).length != req.length then .error .value
      else .ok (src.filter (fun i => req.contains i), idMask src req) := by
  simp only [getIds, idMask, filterMask_map_self]

theorem getIds_some_ok (src req : List Id) (hs : src.Nodup) (hr : req.Nodup)
    (hsub : ∀ x ∈ req, x ∈ src) :
    getIds src (some req) = .ok (src.filter (fun i => req.contains i), idMask src req) := by
  rw [getIds_some, kept_length src req hs hr hsub, bne_self_eq_false]; rfl

theorem getIds_refuses (src req : List Id)
    (h : (src.filter (fun i => req.contains i)).length < req.length) :
    getIds src (some req) = .error .value := by
  rw [getIds_some, if_pos (bne_iff_ne.mpr (Nat.ne_of_lt h))]

theorem subsetMd_all (md : Option (List Md)) (ids : List Id)
    (h : ∀ m, md = some m → m.length = ids.length) :
    orNone (subsetMd md (ids.map (fun _ => true))) = orNone md := by
  match md, h with
  | none, _ => rfl
  | some [], _ => rfl
  | some (e :: es), h =>
    show orNone (some (filterMask (e :: es) _)) = _
    rw [filterMask_all_true (e :: es) ids (h _ rfl).symm]

theorem subsetMd_mask (md : Option (List Md)) (ids : List Id) (mask : List Bool)
    (h : ∀ m, md = some m → m.length = ids.length) (hne : filterMask ids mask ≠ []) :
    orNone (subsetMd md mask) = (orNone md).map (fun m => filterMask m mask) := by
  match md, h with
  | none, _ => rfl
  | some [], _ => rfl
  | some (e :: es), h =>
    have hl := filterMask_length_eq _ _ mask (h _ rfl)
    simp only [subsetMd, orNone, Option.map_some]
    cases hf : filterMask (e :: es) mask with
    | nil => rw [hf] at hl; exact absurd (List.length_eq_zero_iff.mp hl.symm) hne
    | cons _ _ => rfl

theorem extract_spec [Zero α] (f : H5 α) (ax : Axis) (hwf : H5.WF f ax) (req : List Id)
    (hkne : (f.grp ax).ids.filter (fun i => req.contains i) ≠ []) :
    let g := f.grp ax
    let keep := posFrom 0 (idMask g.ids req)
    mapE (readRange g.indptr) keep = .ok (rangesOf g.indptr keep) ∧
    sortRanges (rangesOf g.indptr keep) = rangesOf g.indptr keep ∧
    (rangesOf g.indptr keep).isEmpty = false ∧
    (subCS g (rangesOf g.indptr keep) keep.length (f.grp ax.other).ids.length).toDense =
      filterMask (csOf f ax).toDense (idMask g.ids req) := by
  intro g keep
  have hm : (idMask g.ids req).length = (csOf f ax).nMajor := by
    rw [idMask, List.length_map]; exact (hwf.dim ax).symm
  obtain ⟨he1, he2⟩ := extract_ok (csOf f ax) hwf.cs _ hm
  refine ⟨he1, he2, ?_, ?_⟩
  · rw [rangesOf, List.isEmpty_map, List.isEmpty_eq_false_iff, ← List.length_pos_iff,
      posFrom_idMask_length]
    exact List.length_pos_iff.mpr hkne
  · rw [← hwf.dim ax.other]
    exact subCS_toDense g (csOf f ax) hwf.cs rfl rfl rfl _ hm

/-- **Subset read = read everything, filter, drop emptied other-axis vectors** (default HDF5 path):
for a well-formed file and requested IDs that are all present and distinct, the table returned
by `from_hdf5(ids=…, axis=…)` is — IDs in file order, cells, metadata — the full table filtered to
the request and then freed of the other-axis vectors that became all-zero. -/
theorem h5subset_eq [Zero α] [DecidableEq α] (f : H5 α) (req : List Id) (ax : Axis)
    (hwf : H5.WF f ax) (hne : req ≠ []) (hnd : req.Nodup) (hsub : ∀ x ∈ req, x ∈ (f.grp ax).ids) :
    h5Subset f req ax = .ok (dropEmptyOther (filterAxis (fromFile f ax) req ax) ax) := by
  have hkl := kept_length (f.grp ax).ids req hwf.nodup hnd hsub
  have hkne : (f.grp ax).ids.filter (fun i => req.contains i) ≠ [] := fun h =>
    hne (List.length_eq_zero_iff.mp (by rw [← hkl, h]; rfl))
  obtain ⟨he1, he2, he3, hdense⟩ := extract_spec f ax hwf req hkne
  have hg := getIds_some_ok (f.grp ax).ids req hwf.nodup hnd hsub
  have hn := posFrom_idMask_length (f.grp ax).ids req
  have hkne' : filterMask (f.grp ax).ids (idMask (f.grp ax).ids req) ≠ [] := by
    rwa [idMask, filterMask_map_self]
  cases ax with
  | obs =>
    simp only [H5.grp, Axis.other] at he1 he2 he3 hdense hg hn hkne'
    simp only [h5Subset, H5.grp, ↓reduceIte, reduceCtorEq, hg, getIds_none, he1, he2, he3,
      Bool.false_eq_true, dropEmptyOther]
    refine congrArg (fun t => Except.ok (dropEmpty t _)) ?_
    simp only [mkTable, filterAxis, maskTable, fromFile, Table.ids, ← hn, hdense,
      subsetMd_mask f.obs.md f.obs.ids _ hwf.omdLen hkne',
      subsetMd_all f.samp.md f.samp.ids hwf.smdLen]
    simp only [idMask, filterMask_map_self]
  | samp =>
    simp only [H5.grp, Axis.other] at he1 he2 he3 hdense hg hn hkne'
    simp only [h5Subset, H5.grp, ↓reduceIte, reduceCtorEq, hg, getIds_none, he1, he2, he3,
      Bool.false_eq_true, dropEmptyOther]
    refine congrArg (fun t => Except.ok (dropEmpty t _)) ?_
    simp only [mkTable, filterAxis, maskTable, fromFile, Table.ids, ← hn,
      transposeGrid_toDense_mask (csOf f .samp) _ _ hdense hwf.shapeObs.symm,
      subsetMd_mask f.samp.md f.samp.ids _ hwf.smdLen hkne',
      subsetMd_all f.obs.md f.obs.ids hwf.omdLen]
    simp only [idMask, filterMask_map_self]

theorem h5Subset_of_getIds_error [Zero α] [DecidableEq α] (f : H5 α) (req : List Id) (ax : Axis)
    (h : getIds (f.grp ax).ids (some req) = .error .value) : h5Subset f req ax = .error .value := by
  cases ax with
  | obs => simp only [H5.grp] at h; simp only [h5Subset, ↓reduceIte, h]
  | samp => simp only [H5.grp] at h; simp only [h5Subset, ↓reduceIte, reduceCtorEq, getIds_none, h]

/-- **An unknown ID is refused** (default HDF5 path): whatever else is requested, if one requested
ID is not among the file's (distinct) IDs of that axis, the reader raises `ValueError`. -/
theorem h5subset_unknown_refused [Zero α] [DecidableEq α] (f : H5 α) (req : List Id) (ax : Axis)
    (hnd : (f.grp ax).ids.Nodup) (x : Id) (hx : x ∈ req) (hxs : x ∉ (f.grp ax).ids) :
    h5Subset f req ax = .error .value :=
  h5Subset_of_getIds_error f req ax
    (getIds_refuses _ _ (kept_length_lt _ req hnd x hx (Or.inl hxs)))

/-- the shape comparison also refuses a request that repeats an ID -/
theorem h5subset_repeated_refused [Zero α] [DecidableEq α] (f : H5 α) (req : List Id) (ax : Axis)
    (hnd : (f.grp ax).ids.Nodup) (hrep : ¬ req.Nodup) : h5Subset f req ax = .error .value :=
  have ⟨x, hx, hxe⟩ := exists_mem_erase_self hrep
  h5Subset_of_getIds_error f req ax (getIds_refuses _ _ (kept_length_lt _ req hnd x hx (Or.inr hxe)))

/-- `parse_biom_table(handle, ids=…)` on HDF5: same table; a refusal surfaces as `TypeError` -/
theorem parseH5_eq [Zero α] [DecidableEq α] (f : H5 α) (req : List Id) (ax : Axis)
    (hwf : H5.WF f ax) (hne : req ≠ []) (hnd : req.Nodup) (hsub : ∀ x ∈ req, x ∈ (f.grp ax).ids) :
    parseH5 f req ax = .ok (dropEmptyOther (filterAxis (fromFile f ax) req ax) ax) := by
  simp only [parseH5, h5subset_eq f req ax hwf hne hnd hsub]

theorem parseH5_unknown_refused [Zero α] [DecidableEq α] (f : H5 α) (req : List Id) (ax : Axis)
    (hnd : (f.grp ax).ids.Nodup) (x : Id) (hx : x ∈ req) (hxs : x ∉ (f.grp ax).ids) :
    parseH5 f req ax = .error .type := by
  simp only [parseH5, h5subset_unknown_refused f req ax hnd x hx hxs]

/-- a table without metadata and type, as the metadata-free variant constructs it -/
def stripMd (t : Table α) : Table α := { t with omd := none, smd := none, ttype := none }

/-- **Metadata-free variant**: same IDs (file order) and cells as load-all-then-filter, no metadata,
and NO emptiness filter on the other axis.  The request is a set here: repeats are harmless. -/
theorem h5nomd_eq [Zero α] (f : H5 α) (req : List Id) (ax : Axis)
    (hwf : H5.WF f ax) (hne : req ≠ []) (hsub : ∀ x ∈ req, x ∈ (f.grp ax).ids) :
    h5SubsetNoMd f req ax = .ok (stripMd (filterAxis (fromFile f ax) req ax)) := by
  have hn := posFrom_idMask_length (f.grp ax).ids req
  have hkne : (f.grp ax).ids.filter (fun i => req.contains i) ≠ [] := by
    obtain ⟨x, hx⟩ := List.exists_mem_of_ne_nil _ hne
    exact List.ne_nil_of_mem (List.mem_filter.mpr ⟨hsub x hx, List.contains_iff_mem.mpr hx⟩)
  obtain ⟨he1, _, he3, hdense⟩ := extract_spec f ax hwf req hkne
  have hbne : ((posFrom 0 (idMask (f.grp ax).ids req)).length != req.eraseDups.length) = false := by
    rw [hn, kept_length_set _ req hwf.nodup hsub, bne_self_eq_false]
  simp only [h5SubsetNoMd, hbne, he1, he3, Bool.false_eq_true, ↓reduceIte]
  cases ax with
  | obs =>
    simp only [H5.grp, Axis.other] at hdense ⊢
    simp only [mkTable, hdense, stripMd, filterAxis, maskTable, fromFile, Table.ids, orNone]
  | samp =>
    simp only [H5.grp, Axis.other] at hdense ⊢
    simp only [mkTable, transposeGrid_toDense_mask (csOf f .samp) _ _ hdense hwf.shapeObs.symm,
      stripMd, filterAxis, maskTable, fromFile, Table.ids, orNone]

/-- the metadata-free variant refuses an unknown ID too (repair 7b0a08ea) -/
theorem h5nomd_unknown_refused [Zero α] (f : H5 α) (req : List Id) (ax : Axis)
    (hnd : (f.grp ax).ids.Nodup) (x : Id) (hx : x ∈ req) (hxs : x ∉ (f.grp ax).ids) :
    h5SubsetNoMd f req ax = .error .value := by
  have hlt := kept_length_lt (f.grp ax).ids req.eraseDups hnd x (List.mem_eraseDups.mpr hx) (Or.inl hxs)
  simp only [contains_eraseDups, ← posFrom_idMask_length] at hlt
  simp only [h5SubsetNoMd, bne_iff_ne.mpr (Nat.ne_of_lt hlt), ↓reduceIte]

/-! ## JSON -/

/-- a document as the library writes it -/
structure Doc.WF (d : Doc α) : Prop where
  shapeRows : d.shape.1 = d.rows.length
  shapeCols : d.shape.2 = d.cols.length
  inRange : ∀ t ∈ d.data, t.r < d.shape.1 ∧ t.c < d.shape.2

/-- `"metadata"` is `null` on every record of the axis, or an object on every record (what
`to_json` writes) -/
def MdUniform (recs : List Rec) : Prop := (∀ r ∈ recs, r.md = none) ∨ (∀ r ∈ recs, r.md ≠ none)

/-- the table `Table.from_json` builds from a well-formed document -/
def docTable [Zero α] [Add α] (d : Doc α) : Table α :=
  { obs := d.rows.map (·.id), samp := d.cols.map (·.id),
    rows := (List.range d.shape.1).map (fun i => (List.range d.shape.2).map (cellOf d.data i)),
    omd := castMd d.rows, smd := castMd d.cols, ttype := d.ttype }

theorem docTable_ids [Zero α] [Add α] (d : Doc α) (a : Axis) :
    (docTable d).ids a = (d.recs a).map (·.id) := by cases a <;> rfl

theorem docToTable_ok [Zero α] [Add α] (d : Doc α) (h : Doc.WF d) : docToTable d = .ok (docTable d) := by
  have h1 : d.data.any (fun t => decide (d.shape.1 ≤ t.r) || decide (d.shape.2 ≤ t.c)) = false := by
    rw [List.any_eq_false]
    intro t ht
    have := h.inRange t ht
    simp only [Bool.or_eq_true, decide_eq_true_eq, not_or, Nat.not_le]
    exact this
  have h2 : (d.shape.1 != d.rows.length || d.shape.2 != d.cols.length) = false := by
    rw [h.shapeRows, h.shapeCols, bne_self_eq_false, bne_self_eq_false]; rfl
  simp only [docToTable, h1, h2, Bool.false_eq_true, ↓reduceIte, docTable]

/-- **`parse_table(ids=…)` on JSON = load everything, filter, drop emptied other-axis vectors.** -/
theorem json_subset_eq [Zero α] [Add α] [DecidableEq α] (d : Doc α) (req : List Id) (ax : Axis)
    (h : Doc.WF d) :
    jsonSubset d req ax = .ok (dropEmptyOther (filterAxis (docTable d) req ax) ax) := by
  simp only [jsonSubset, docToTable_ok d h, dropEmptyOther]

/-- `_cast_metadata` commutes with keeping some records, as long as the axis is uniform (a mixed
axis could lose its only non-null record) and something is kept (an empty axis casts to `None`) -/
theorem castMd_filterMask (recs : List Rec) (mask : List Bool) (hu : MdUniform recs)
    (hne : filterMask recs mask ≠ []) :
    castMd (filterMask recs mask) = (castMd recs).map (fun m => filterMask m mask) := by
  have hne' : recs ≠ [] := fun e => hne (by rw [e]; rfl)
  rcases hu with hn | hs
  · have h1 : ∀ l : List Rec, (∀ r ∈ l, r ∈ recs) → l.all (fun r => r.md.isNone) = true :=
      fun l hl => List.all_eq_true.mpr fun r hr => by rw [hn r (hl r hr)]; rfl
    rw [castMd, castMd, h1 _ (mem_filterMask _ _), h1 recs (fun _ h => h)]; rfl
  · have h0 : ∀ l : List Rec, (∀ r ∈ l, r ∈ recs) → l ≠ [] →
        l.all (fun r => r.md.isNone) = false := by
      intro l hl hl0
      obtain ⟨r0, hr0⟩ := List.exists_mem_of_ne_nil _ hl0
      refine List.all_eq_false.mpr ⟨r0, hr0, ?_⟩
      cases hmd : r0.md with
      | none => exact absurd hmd (hs r0 (hl r0 hr0))
      | some _ => exact Bool.false_ne_true
    rw [castMd, castMd, h0 _ (mem_filterMask _ _) hne, h0 recs (fun _ h => h) hne']
    simp only [Bool.false_eq_true, ↓reduceIte, Option.map_some, filterMask_map]

/-- the document the slicer describes, for the kept positions given as a mask -/
def sliceDoc (d : Doc α) (mask : List Bool) (ax : Axis) : Doc α :=
  match ax with
  | .obs => { d with rows := filterMask d.rows mask, data := sliceTriples d.data (posFrom 0 mask) .obs,
                     shape := ((posFrom 0 mask).length, d.shape.2) }
  | .samp => { d with cols := filterMask d.cols mask, data := sliceTriples d.data (posFrom 0 mask) .samp,
                      shape := (d.shape.1, (posFrom 0 mask).length) }

theorem sliceDoc_wf (d : Doc α) (mask : List Bool) (ax : Axis) (hwf : Doc.WF d)
    (hm : mask.length = (d.recs ax).length) : Doc.WF (sliceDoc d mask ax) := by
  cases ax with
  | obs =>
    refine ⟨posFrom_length 0 d.rows mask hm.symm, hwf.shapeCols, ?_⟩
    intro t ht
    simp only [sliceDoc, sliceTriples, sortedSet_posFrom, List.mem_map, List.mem_filter] at ht
    obtain ⟨t0, ⟨ht0, hc⟩, rfl⟩ := ht
    exact ⟨List.idxOf_lt_length_iff.mpr (List.contains_iff_mem.mp hc), (hwf.inRange t0 ht0).2⟩
  | samp =>
    refine ⟨hwf.shapeRows, posFrom_length 0 d.cols mask hm.symm, ?_⟩
    intro t ht
    simp only [sliceDoc, sliceTriples, sortedSet_posFrom, List.mem_map, List.mem_filter] at ht
    obtain ⟨t0, ⟨ht0, hc⟩, rfl⟩ := ht
    exact ⟨(hwf.inRange t0 ht0).1, List.idxOf_lt_length_iff.mpr (List.contains_iff_mem.mp hc)⟩

/-- **Slicing the triples = masking the loaded table** (triple level): keep the triples whose
row/column index is kept, rename the index to its rank, adjust the shape, keep the records at the
kept positions — the document so obtained loads to the full table restricted to those positions. -/
theorem slice_eq [Zero α] [Add α] (d : Doc α) (mask : List Bool) (ax : Axis) (hwf : Doc.WF d)
    (hu : MdUniform (d.recs ax)) (hm : mask.length = (d.recs ax).length)
    (hne : filterMask (d.recs ax) mask ≠ []) :
    docToTable (sliceDoc d mask ax) = .ok (maskTable (docTable d) ax mask) := by
  rw [docToTable_ok _ (sliceDoc_wf d mask ax hwf hm)]
  refine congrArg Except.ok ?_
  cases ax with
  | obs =>
    have hm' : d.shape.1 = mask.length := hwf.shapeRows.trans hm.symm
    simp only [docTable, sliceDoc, maskTable, sliceTriples, sortedSet_posFrom, ← filterMask_map,
      castMd_filterMask d.rows mask hu hne]
    congr 1
    rw [hm', List.range_eq_range' (n := mask.length), ← posFrom_eq_filterMask]
    refine range_map_getElem _ _ _ fun k hk => List.map_congr_left fun j _ => ?_
    rw [cellOf, cellOf, slice_obs_values d.data (posFrom 0 mask) (posFrom_nodup 0 mask) k j hk]
  | samp =>
    have hm' : d.shape.2 = mask.length := hwf.shapeCols.trans hm.symm
    simp only [docTable, sliceDoc, maskTable, sliceTriples, sortedSet_posFrom, ← filterMask_map,
      castMd_filterMask d.cols mask hu hne]
    congr 1
    rw [List.map_map]
    refine List.map_congr_left fun i _ => ?_
    rw [Function.comp, hm', List.range_eq_range' (n := mask.length), ← posFrom_map]
    refine range_map_getElem _ _ _ fun k hk => ?_
    rw [cellOf, cellOf, slice_samp_values d.data (posFrom 0 mask) (posFrom_nodup 0 mask) i k hk]

theorem getAxisIndices_ok (d : Doc α) (req : List Id) (ax : Axis)
    (hsub : ∀ x ∈ req, x ∈ (d.recs ax).map (·.id)) :
    getAxisIndices d req ax =
      .ok (posFrom 0 (idMask ((d.recs ax).map (·.id)) req),
           filterMask (d.recs ax) (idMask ((d.recs ax).map (·.id)) req)) := by
  have h1 : req.all (fun i => ((d.recs ax).map (·.id)).contains i) = true :=
    List.all_eq_true.mpr fun x hx => List.contains_iff_mem.mpr (hsub x hx)
  simp only [getAxisIndices, h1, Bool.not_true, Bool.false_eq_true, ↓reduceIte]
  rw [recs_at_positions (d.recs ax) _ (by rw [idMask, List.length_map, List.length_map])]

theorem getAxisIndices_refuses (d : Doc α) (req : List Id) (ax : Axis) (x : Id) (hx : x ∈ req)
    (hxs : x ∉ (d.recs ax).map (·.id)) : getAxisIndices d req ax = .error .key := by
  have h1 : req.all (fun i => ((d.recs ax).map (·.id)).contains i) = false :=
    List.all_eq_false.mpr ⟨x, hx, fun h => hxs (List.contains_iff_mem.mp h)⟩
  simp only [getAxisIndices, h1, Bool.not_false, ↓reduceIte]

theorem cmdJsonDoc_ok (d : Doc α) (req : List Id) (ax : Axis) (hwf : Doc.WF d) (hne : req ≠ [])
    (hsub : ∀ x ∈ req, x ∈ (d.recs ax).map (·.id)) :
    cmdJsonDoc d req ax = .ok (sliceDoc d (idMask ((d.recs ax).map (·.id)) req) ax) ∧
    filterMask (d.recs ax) (idMask ((d.recs ax).map (·.id)) req) ≠ [] := by
  have hm : (idMask ((d.recs ax).map (·.id)) req).length = (d.recs ax).length := by
    rw [idMask, List.length_map, List.length_map]
  have hpos : 0 < (posFrom 0 (idMask ((d.recs ax).map (·.id)) req)).length := by
    obtain ⟨x, hx⟩ := List.exists_mem_of_ne_nil _ hne
    rw [posFrom_idMask_length]
    exact List.length_pos_of_mem (List.mem_filter.mpr ⟨hsub x hx, List.contains_iff_mem.mpr hx⟩)
  have hpne := List.length_pos_iff.mp hpos
  have hmax : ¬ listMax (posFrom 0 (idMask ((d.recs ax).map (·.id)) req)) ≥ (d.recs ax).length :=
    Nat.not_le_of_lt (listMax_lt _ _ hpne fun i hi => hm ▸ lt_of_mem_posFrom hi)
  refine ⟨?_, fun h => by rw [posFrom_length 0 _ _ hm.symm, h] at hpos; exact Nat.lt_irrefl _ hpos⟩
  cases ax with
  | obs =>
    have hmax' : ¬ listMax (posFrom 0 (idMask ((d.recs .obs).map (·.id)) req)) ≥ d.shape.1 := by
      rw [hwf.shapeRows]; exact hmax
    simp only [cmdJsonDoc, getAxisIndices_ok d req .obs hsub, directSliceData,
      List.isEmpty_eq_false_iff.mpr hpne, Bool.false_eq_true, ↓reduceIte, hmax']
    rfl
  | samp =>
    have hmax' : ¬ listMax (posFrom 0 (idMask ((d.recs .samp).map (·.id)) req)) ≥ d.shape.2 := by
      rw [hwf.shapeCols]; exact hmax
    simp only [cmdJsonDoc, getAxisIndices_ok d req .samp hsub, directSliceData,
      List.isEmpty_eq_false_iff.mpr hpne, Bool.false_eq_true, ↓reduceIte, hmax']
    rfl

/-- **`subset-table` on JSON = load everything and filter** (record/triple level): for a
well-formed document whose metadata is uniformly null or uniformly an object on the subset axis,
and requested IDs all present, the stitched document loads to the full table filtered to the
request (no emptiness filter — the command documents that fully zeroed vectors may remain). -/
theorem cmd_json_eq [Zero α] [Add α] (d : Doc α) (req : List Id) (ax : Axis) (hwf : Doc.WF d)
    (hu : MdUniform (d.recs ax)) (hne : req ≠ []) (hsub : ∀ x ∈ req, x ∈ (d.recs ax).map (·.id)) :
    cmdJson d req ax = .ok (filterAxis (docTable d) req ax) := by
  obtain ⟨hdoc, hkne⟩ := cmdJsonDoc_ok d req ax hwf hne hsub
  rw [cmdJson, hdoc, filterAxis, docTable_ids]
  exact slice_eq d _ ax hwf hu (by rw [idMask, List.length_map, List.length_map]) hkne

/-- the command refuses a request naming an ID that is not in the JSON document (`KeyError`) -/
theorem cmd_json_unknown_refused [Zero α] [Add α] (d : Doc α) (req : List Id) (ax : Axis) (x : Id)
    (hx : x ∈ req) (hxs : x ∉ (d.recs ax).map (·.id)) : cmdJson d req ax = .error .key := by
  simp only [cmdJson, cmdJsonDoc, getAxisIndices_refuses d req ax x hx hxs]

/-! ## The declarative predicate holds of load-all-then-filter, hence of every model -/

/-- the table the property expects of variant `v` -/
def subsetSpec [Zero α] [DecidableEq α] (t : Table α) (req : List Id) (ax : Axis) (v : Variant) : Table α :=
  if v.noMd then stripMd (filterAxis t req ax)
  else if v.drops then dropEmptyOther (filterAxis t req ax) ax
  else filterAxis t req ax

structure TableOK (t : Table α) : Prop where
  wf : t.WF
  obsNodup : t.obs.Nodup
  sampNodup : t.samp.Nodup

theorem TableOK.nodup {t : Table α} (h : TableOK t) (ax : Axis) : (t.ids ax).Nodup := by
  cases ax
  · exact h.obsNodup
  · exact h.sampNodup

theorem mem_keptIds {t : Table α} {req : List Id} {ax : Axis} {k : Id}
    (h : k ∈ filterMask (t.ids ax) (idMask (t.ids ax) req)) : k ∈ t.ids ax := mem_filterMask _ _ _ h

theorem okClauses_true [Zero α] [DecidableEq α] (full r : Table α) (req : List Id) (ax : Axis)
    (v : Variant) (hax : r.ids ax = keptIds full req ax)
    (hoth : r.ids ax.other = if v.drops then
        (full.ids ax.other).filter (fun o => (keptIds full req ax).any (fun k => nzCell full ax k o))
      else full.ids ax.other)
    (hcell : ∀ k ∈ r.ids ax, ∀ o ∈ r.ids ax.other, cellA r ax k o = cellA full ax k o)
    (hmdA : v.noMd = false → ∀ k ∈ r.ids ax, r.mdOf? ax k = full.mdOf? ax k)
    (hmdO : v.noMd = false → ∀ o ∈ r.ids ax.other, r.mdOf? ax.other o = full.mdOf? ax.other o)
    (hno : v.noMd = true → ∀ a, r.md a = none)
    (hty : v.noMd = false → r.ttype = full.ttype) (hwf : r.WF) :
    firstFailing (okClauses full req ax v r) = none := by
  have hmdc : ∀ a, (v.noMd = false → ∀ k ∈ r.ids a, r.mdOf? a k = full.mdOf? a k) →
      (if v.noMd then (r.md a).isNone else mdClause full r a) = true := by
    intro a hmd
    cases hm : v.noMd
    · exact List.all_eq_true.mpr fun k hk => beq_iff_eq.mpr (hmd hm k hk)
    · exact Option.isNone_iff_eq_none.mpr (hno hm a)
  have e3 : ((r.ids ax).all fun k => (r.ids ax.other).all fun o =>
      (cellA r ax k o).isSome && cellA r ax k o == cellA full ax k o) = true := by
    simp only [List.all_eq_true, Bool.and_eq_true, beq_iff_eq]
    exact fun k hk o ho => ⟨cellA_isSome r hwf ax k o hk ho, hcell k hk o ho⟩
  have e6 : (v.noMd || r.ttype == full.ttype) = true := by
    cases hm : v.noMd
    · exact beq_iff_eq.mpr (hty hm)
    · rfl
  simp only [okClauses, beq_iff_eq.mpr hax, beq_iff_eq.mpr hoth, e3, hmdc ax hmdA,
    hmdc ax.other hmdO, e6, (Layer.table_wfb_iff r).mpr hwf]
  rfl

theorem filterAxis_ids (t : Table α) (req : List Id) (ax : Axis) :
    (filterAxis t req ax).ids ax = keptIds t req ax := by
  rw [filterAxis, maskTable_ids_same, idMask, filterMask_map_self]; rfl

theorem okClauses_filter [Zero α] [DecidableEq α] (t : Table α) (ok : TableOK t) (req : List Id)
    (ax : Axis) (v : Variant) (hd : v.drops = false) (hm : v.noMd = false) :
    firstFailing (okClauses t req ax v (filterAxis t req ax)) = none := by
  have hk : ∀ k ∈ (filterAxis t req ax).ids ax, k ∈ filterMask (t.ids ax) (idMask (t.ids ax) req) :=
    fun k hk => by rwa [filterAxis, maskTable_ids_same] at hk
  refine okClauses_true t _ req ax v (filterAxis_ids t req ax) ?_ ?_ ?_ ?_ ?_ ?_
    (maskTable_WF t ax _ ok.wf)
  · rw [hd]; exact maskTable_ids_other _ _ _
  · exact fun k hk' o _ => cellA_maskTable_same t ax _ k o (ok.nodup ax) (hk k hk')
  · exact fun _ k hk' => mdOf_maskTable_same t ax _ k (ok.nodup ax) (hk k hk')
  · exact fun _ o _ => mdOf_maskTable_other t ax _ o
  · exact fun h => by rw [hm] at h; cases h
  · exact fun _ => maskTable_ttype t ax _

theorem okClauses_drop [Zero α] [DecidableEq α] (t : Table α) (ok : TableOK t) (req : List Id)
    (ax : Axis) (v : Variant) (hd : v.drops = true) (hm : v.noMd = false) :
    firstFailing (okClauses t req ax v (dropEmptyOther (filterAxis t req ax) ax)) = none := by
  have hax : (dropEmptyOther (filterAxis t req ax) ax).ids ax = keptIds t req ax :=
    (maskTable_other_ids _ ax _).trans (filterAxis_ids t req ax)
  have hk : ∀ k ∈ (dropEmptyOther (filterAxis t req ax) ax).ids ax,
      k ∈ filterMask (t.ids ax) (idMask (t.ids ax) req) :=
    fun k hk => by rwa [hax, ← filterAxis_ids, filterAxis, maskTable_ids_same] at hk
  have hSnd : ((filterAxis t req ax).ids ax.other).Nodup :=
    (maskTable_ids_other t ax _).symm ▸ ok.nodup ax.other
  have ho : ∀ o ∈ (dropEmptyOther (filterAxis t req ax) ax).ids ax.other,
      o ∈ filterMask ((filterAxis t req ax).ids ax.other)
        ((vecs (filterAxis t req ax) ax.other).map anyNZ) :=
    fun o ho => by rwa [dropEmptyOther, dropEmpty, maskTable_ids_same] at ho
  refine okClauses_true t _ req ax v hax ?_ ?_ ?_ ?_ ?_ ?_
    (maskTable_WF _ _ _ (maskTable_WF t ax _ ok.wf))
  · rw [hd]; exact dropEmpty_ids t ok.wf ok.obsNodup ok.sampNodup req ax
  · exact fun k hk' o ho' => (cellA_maskTable_other _ ax _ k o hSnd (ho o ho')).trans
      (cellA_maskTable_same t ax _ k o (ok.nodup ax) (hk k hk'))
  · exact fun _ k hk' => (maskTable_other_mdOf _ ax _ k).trans
      (mdOf_maskTable_same t ax _ k (ok.nodup ax) (hk k hk'))
  · exact fun _ o ho' => (mdOf_maskTable_same _ ax.other _ o hSnd (ho o ho')).trans
      (mdOf_maskTable_other t ax _ o)
  · exact fun h => by rw [hm] at h; cases h
  · exact fun _ => (maskTable_ttype _ _ _).trans (maskTable_ttype t ax _)

theorem okClauses_nomd [Zero α] [DecidableEq α] (t : Table α) (ok : TableOK t) (req : List Id)
    (ax : Axis) (v : Variant) (hd : v.drops = false) (hm : v.noMd = true) :
    firstFailing (okClauses t req ax v (stripMd (filterAxis t req ax))) = none := by
  have hids : ∀ a, (stripMd (filterAxis t req ax)).ids a = (filterAxis t req ax).ids a :=
    fun a => by cases a <;> rfl
  have hk : ∀ k ∈ (stripMd (filterAxis t req ax)).ids ax,
      k ∈ filterMask (t.ids ax) (idMask (t.ids ax) req) :=
    fun k hk => by rwa [hids, filterAxis, maskTable_ids_same] at hk
  obtain ⟨h1, h2, _, _⟩ := maskTable_WF t ax (idMask (t.ids ax) req) ok.wf
  refine okClauses_true t _ req ax v ((hids ax).trans (filterAxis_ids t req ax)) ?_ ?_ ?_ ?_ ?_ ?_
    ⟨h1, h2, fun _ h => (by cases h), fun _ h => (by cases h)⟩
  · rw [hd]; exact (hids _).trans (maskTable_ids_other _ _ _)
  · intro k hk' o _
    have : cellA (stripMd (filterAxis t req ax)) ax k o = cellA (filterAxis t req ax) ax k o := by
      cases ax <;> rfl
    exact this.trans (cellA_maskTable_same t ax _ k o (ok.nodup ax) (hk k hk'))
  · exact fun h => by rw [hm] at h; cases h
  · exact fun h => by rw [hm] at h; cases h
  · exact fun _ a => by cases a <;> rfl
  · exact fun h => by rw [hm] at h; cases h

/-! ### `holds`, case by case -/

theorem holds_unknown [Zero α] [DecidableEq α] (full : Table α) (req : List Id) (ax : Axis)
    (v : Variant) (res : Except Err (Table α)) (x : Id) (hx : x ∈ req) (hxs : x ∉ full.ids ax)
    (h : v.refusesUnknown = true → ∃ e, res = .error e) : holds full req ax v res = true := by
  have h0 : (!req.all fun i => (full.ids ax).contains i) = true := by
    rw [Bool.not_eq_true', List.all_eq_false]
    exact ⟨x, hx, fun h => hxs (List.contains_iff_mem.mp h)⟩
  unfold holds verdict
  rw [if_pos h0]
  cases hv : v.refusesUnknown
  · rfl
  · obtain ⟨e, rfl⟩ := h hv; rfl

theorem not_all_contains_eq_false {req ids : List Id} (hsub : ∀ x ∈ req, x ∈ ids) :
    (!req.all fun i => ids.contains i) = false := by
  rw [Bool.not_eq_false', List.all_eq_true]
  exact fun x hx => List.contains_iff_mem.mpr (hsub x hx)

/-- an empty or repeating request of known IDs lies outside the property's quantifier -/
theorem holds_outside [Zero α] [DecidableEq α] (full : Table α) (req : List Id) (ax : Axis) (v : Variant)
    (res : Except Err (Table α)) (hsub : ∀ x ∈ req, x ∈ full.ids ax)
    (hout : req = [] ∨ ¬ req.Nodup) : holds full req ax v res = true := by
  have h1 : (req.isEmpty || !decide req.Nodup) = true := by
    rcases hout with rfl | h
    · rfl
    · rw [decide_eq_false h]; exact Bool.or_true _
  unfold holds verdict
  rw [not_all_contains_eq_false hsub, h1]
  rfl

theorem holds_valid [Zero α] [DecidableEq α] (full : Table α) (req : List Id) (ax : Axis)
    (v : Variant) (r : Table α) (hsub : ∀ x ∈ req, x ∈ full.ids ax)
    (h : firstFailing (okClauses full req ax v r) = none) : holds full req ax v (.ok r) = true := by
  unfold holds verdict
  rw [not_all_contains_eq_false hsub]
  simp only [Bool.false_eq_true, ↓reduceIte]
  split
  · rfl
  · exact Option.isNone_iff_eq_none.mpr h

/-- **`holds` is true of load-all-then-filter** for every well-formed table with distinct IDs,
every non-empty request of distinct present IDs, both axes, every variant. -/
theorem spec_holds [Zero α] [DecidableEq α] (t : Table α) (ok : TableOK t) (req : List Id) (ax : Axis)
    (v : Variant) (hsub : ∀ x ∈ req, x ∈ t.ids ax) :
    holds t req ax v (.ok (subsetSpec t req ax v)) = true := by
  refine holds_valid t req ax v _ hsub ?_
  rw [subsetSpec]
  cases hm : v.noMd
  · cases hd : v.drops
    · exact okClauses_filter t ok req ax v hd hm
    · exact okClauses_drop t ok req ax v hd hm
  · exact okClauses_nomd t ok req ax v (match v, hm with | .h5nomd, _ => rfl) hm

theorem holds_of_model [Zero α] [DecidableEq α] (t : Table α) (ok : TableOK t) (req : List Id)
    (ax : Axis) (v : Variant) (res : Except Err (Table α))
    (hknown : (∀ x ∈ req, x ∈ t.ids ax) → req ≠ [] → req.Nodup → res = .ok (subsetSpec t req ax v))
    (hunk : ∀ x ∈ req, x ∉ t.ids ax → v.refusesUnknown = true → ∃ e, res = .error e) :
    holds t req ax v res = true := by
  cases hall : req.all fun i => (t.ids ax).contains i
  · obtain ⟨x, hx, hc⟩ := List.all_eq_false.mp hall
    have hxs : x ∉ t.ids ax := fun h => hc (List.contains_iff_mem.mpr h)
    exact holds_unknown t req ax v res x hx hxs (hunk x hx hxs)
  · have hsub : ∀ x ∈ req, x ∈ t.ids ax :=
      fun x hx => List.contains_iff_mem.mp (List.all_eq_true.mp hall x hx)
    by_cases hout : req = [] ∨ ¬ req.Nodup
    · exact holds_outside t req ax v res hsub hout
    · rw [hknown hsub (fun e => hout (Or.inl e)) (Decidable.not_not.mp fun e => hout (Or.inr e))]
      exact spec_holds t ok req ax v hsub

/-! ### every model returns the expected table, or refuses -/

theorem fromFile_ids [Zero α] (f : H5 α) (ax a : Axis) : (fromFile f ax).ids a = (f.grp a).ids := by
  cases a <;> rfl

theorem orNone_length (md : Option (List Md)) (n : Nat) (hl : ∀ m, md = some m → m.length = n) :
    ∀ m, orNone md = some m → m.length = n := by
  match md, hl with
  | none, _ => exact fun _ h => nomatch h
  | some [], _ => exact fun _ h => nomatch h
  | some (_ :: _), hl => exact hl

theorem fromFile_WF [Zero α] (f : H5 α) (ax : Axis) (h : H5.WF f ax) : (fromFile f ax).WF := by
  have hO := orNone_length f.obs.md _ h.omdLen
  have hS := orNone_length f.samp.md _ h.smdLen
  obtain ⟨hl, hr⟩ := (csOf f ax).toDense_shape
  cases ax with
  | obs => exact ⟨hl.trans h.shapeObs, fun r hr' => (hr r hr').trans h.shapeSamp, hO, hS⟩
  | samp =>
    obtain ⟨tl, tr⟩ := Layer.transposeGrid_shape _ _ hr
    exact ⟨tl.trans h.shapeObs, fun c hc => (tr c hc).trans (hl.trans h.shapeSamp), hO, hS⟩

structure H5.OK (f : H5 α) (ax : Axis) : Prop where
  wf : H5.WF f ax
  obsNodup : f.obs.ids.Nodup
  sampNodup : f.samp.ids.Nodup

theorem fromFile_OK [Zero α] (f : H5 α) (ax : Axis) (h : H5.OK f ax) : TableOK (fromFile f ax) :=
  ⟨fromFile_WF f ax h.wf, h.obsNodup, h.sampNodup⟩

/-- **model_holds (HDF5, default path; also `subset-table` on HDF5)**: for EVERY request — known or
unknown IDs, any order, repeated or not — the declarative predicate is true of what the model of
`from_hdf5(ids=…)` returns, the full table being the model's own full read of the same file. -/
theorem model_holds [Zero α] [DecidableEq α] (f : H5 α) (ax : Axis) (h : H5.OK f ax) (req : List Id)
    (v : Variant) (hv : v = .h5 ∨ v = .cmdH5) :
    holds (fromFile f ax) req ax v (h5Subset f req ax) = true := by
  refine holds_of_model _ (fromFile_OK f ax h) req ax v _ (fun hsub hne hnd => ?_)
    (fun x hx hxs _ => ⟨_, h5subset_unknown_refused f req ax h.wf.nodup x hx (fromFile_ids f ax ax ▸ hxs)⟩)
  rw [h5subset_eq f req ax h.wf hne hnd (fromFile_ids f ax ax ▸ hsub)]
  rcases hv with rfl | rfl <;> rfl

theorem model_holds_parseH5 [Zero α] [DecidableEq α] (f : H5 α) (ax : Axis) (h : H5.OK f ax)
    (req : List Id) : holds (fromFile f ax) req ax .parseH5 (parseH5 f req ax) = true :=
  holds_of_model _ (fromFile_OK f ax h) req ax _ _
    (fun hsub hne hnd => parseH5_eq f req ax h.wf hne hnd (fromFile_ids f ax ax ▸ hsub))
    (fun x hx hxs _ =>
      ⟨_, parseH5_unknown_refused f req ax h.wf.nodup x hx (fromFile_ids f ax ax ▸ hxs)⟩)

theorem model_holds_nomd [Zero α] [DecidableEq α] (f : H5 α) (ax : Axis) (h : H5.OK f ax)
    (req : List Id) : holds (fromFile f ax) req ax .h5nomd (h5SubsetNoMd f req ax) = true :=
  holds_of_model _ (fromFile_OK f ax h) req ax _ _
    (fun hsub hne _ => h5nomd_eq f req ax h.wf hne (fromFile_ids f ax ax ▸ hsub))
    (fun x hx hxs _ =>
      ⟨_, h5nomd_unknown_refused f req ax h.wf.nodup x hx (fromFile_ids f ax ax ▸ hxs)⟩)

structure Doc.OK (d : Doc α) : Prop where
  wf : Doc.WF d
  rowsNodup : (d.rows.map (·.id)).Nodup
  colsNodup : (d.cols.map (·.id)).Nodup

theorem castMd_length (recs : List Rec) : ∀ m, castMd recs = some m → m.length = recs.length := by
  intro m hm
  unfold castMd at hm
  split at hm
  · cases hm
  · cases hm; exact List.length_map _

theorem docTable_OK [Zero α] [Add α] (d : Doc α) (h : Doc.OK d) : TableOK (docTable d) := by
  refine ⟨⟨?_, fun r hr => ?_, fun m hm => ?_, fun m hm => ?_⟩, h.rowsNodup, h.colsNodup⟩
  · exact (List.length_map _).trans
      (List.length_range.trans (h.wf.shapeRows.trans (List.length_map _).symm))
  · obtain ⟨i, _, rfl⟩ := List.mem_map.mp hr
    exact (List.length_map _).trans
      (List.length_range.trans (h.wf.shapeCols.trans (List.length_map _).symm))
  · exact (castMd_length d.rows m hm).trans (List.length_map _).symm
  · exact (castMd_length d.cols m hm).trans (List.length_map _).symm

/-- **model_holds (`parse_table(ids=…)` on JSON)**: every request; unknown IDs are simply ignored
by this reader, which the property allows. -/
theorem model_holds_json [Zero α] [Add α] [DecidableEq α] (d : Doc α) (ax : Axis) (h : Doc.OK d)
    (req : List Id) : holds (docTable d) req ax .jsonParse (jsonSubset d req ax) = true :=
  holds_of_model _ (docTable_OK d h) req ax _ _ (fun _ _ _ => json_subset_eq d req ax h.wf)
    (fun _ _ _ hv => nomatch hv)

/-- **model_holds (`subset-table` on JSON, record/triple level)** under the writer's metadata layout -/
theorem model_holds_cmdjson [Zero α] [Add α] [DecidableEq α] (d : Doc α) (ax : Axis) (h : Doc.OK d)
    (hu : MdUniform (d.recs ax)) (req : List Id) :
    holds (docTable d) req ax .cmdJson (cmdJson d req ax) = true :=
  holds_of_model _ (docTable_OK d h) req ax _ _
    (fun hsub hne _ => cmd_json_eq d req ax h.wf hu hne (docTable_ids d ax ▸ hsub))
    (fun x hx hxs _ => ⟨_, cmd_json_unknown_refused d req ax x hx (docTable_ids d ax ▸ hxs)⟩)

/-! ## The raw-text slicer at field level: every padding -/

/-- `field` is `core` surrounded by characters `strip_f` removes (brackets, blanks, newlines, tabs),
`core` itself neither beginning (`a`) nor ending (`z`) with such a character -/
def Padded (core field : Text) : Prop :=
  ∃ pre post a mid z rmid, field = pre ++ core ++ post ∧ (∀ c ∈ pre, stripSet.contains c = true) ∧
    (∀ c ∈ post, stripSet.contains c = true) ∧ core = a :: mid ∧ core.reverse = z :: rmid ∧
    stripSet.contains a = false ∧ stripSet.contains z = false

theorem dropWhile_pad (p : Char → Bool) (pre : Text) (a : Char) (rest : Text)
    (hpre : ∀ c ∈ pre, p c = true) (ha : p a = false) :
    (pre ++ a :: rest).dropWhile p = a :: rest :=
  (List.dropWhile_append_of_pos hpre).trans (List.dropWhile_cons_of_neg (Bool.eq_false_iff.mp ha))

theorem stripF_padded (core field : Text) (h : Padded core field) : stripF field = core := by
  obtain ⟨pre, post, a, mid, z, rmid, rfl, hpre, hpost, hcore, hrev, ha, hz⟩ := h
  unfold stripF
  have h1 : (pre ++ core ++ post).dropWhile (fun c => stripSet.contains c) = core ++ post := by
    rw [hcore, List.append_assoc, List.cons_append]
    exact dropWhile_pad _ pre a (mid ++ post) hpre ha
  rw [h1, List.reverse_append, hrev]
  rw [dropWhile_pad (fun c => stripSet.contains c) post.reverse z rmid
    (fun c hc => hpost c (List.mem_reverse.mp hc)) hz]
  rw [← hrev, List.reverse_reverse]

theorem contains_map_inj (render : Nat → Text) (hinj : ∀ a b, render a = render b → a = b)
    (sk : List Nat) (r : Nat) : (sk.map render).contains (render r) = sk.contains r := by
  rw [Bool.eq_iff_iff, List.contains_iff_mem, List.contains_iff_mem, List.mem_map]
  exact ⟨fun ⟨a, ha, e⟩ => hinj _ _ e ▸ ha, fun h => ⟨r, h, rfl⟩⟩

theorem idxOf_map_inj (render : Nat → Text) (hinj : ∀ a b, render a = render b → a = b)
    (sk : List Nat) (r : Nat) : (sk.map render).idxOf (render r) = sk.idxOf r := by
  induction sk with
  | nil => rfl
  | cons x xs ih =>
    have hx : (render x == render r) = (x == r) := by
      rw [Bool.eq_iff_iff, beq_iff_eq, beq_iff_eq]; exact ⟨hinj _ _, congrArg _⟩
    simp only [List.map_cons, List.idxOf_cons, ih, hx]

/-- a record of the text (three padded fields) stands for the triple `(r, c, value text)` -/
def RecOf (render : Nat → Text) (t : Nat × Nat × Text) (f : Text × Text × Text) : Prop :=
  Padded (render t.1) f.1 ∧ Padded (render t.2.1) f.2.1 ∧ Padded t.2.2 f.2.2

inductive RecsOf (render : Nat → Text) : List (Nat × Nat × Text) → List (Text × Text × Text) → Prop
  | nil : RecsOf render [] []
  | cons {t f ts fs} : RecOf render t f → RecsOf render ts fs → RecsOf render (t :: ts) (f :: fs)

theorem RecsOf.filter_map {render : Nat → Text} {β : Type} {ts : List (Nat × Nat × Text)}
    {fs : List (Text × Text × Text)} (h : RecsOf render ts fs)
    (P : Text × Text × Text → Bool) (P' : Nat × Nat × Text → Bool)
    (F : Text × Text × Text → β) (F' : Nat × Nat × Text → β)
    (hR : ∀ t f, f ∈ fs → RecOf render t f → P f = P' t ∧ F f = F' t) :
    (fs.filter P).map F = (ts.filter P').map F' := by
  induction h with
  | nil => rfl
  | @cons t f ts fs hrec _ ih =>
    obtain ⟨hp, hf⟩ := hR t f List.mem_cons_self hrec
    have ih' := ih fun t f hm => hR t f (List.mem_cons_of_mem _ hm)
    rw [List.filter_cons, List.filter_cons, hp]
    cases P' t
    · exact ih'
    · simp only [↓reduceIte, List.map_cons, hf, ih']

/-- **Field-level slicer, sample axis, EVERY padding** (`_partial`: the two `split`s and
`direct_parse_key` that produce the fields from the raw text are not covered by a theorem — they
are run against the real functions character by character).  `render` is Python's `str(int)`: any
injective rendering.  Whatever brackets, blanks, newlines or tabs surround the three fields of each
record, the slicer keeps exactly the records whose column index is kept and renames that index to
its rank. -/
theorem slice_fields_samp_eq_partial (render : Nat → Text) (hinj : ∀ a b, render a = render b → a = b)
    (triples : List (Nat × Nat × Text)) (recs : List (Text × Text × Text))
    (h : RecsOf render triples recs) (sk : List Nat) :
    sliceFields render recs sk .samp =
        (triples.filter (fun t => sk.contains t.2.1)).map
          (fun t => (render t.1, render (sk.idxOf t.2.1), t.2.2)) := by
  refine h.filter_map _ _ _ _ fun t f _ ⟨h1, h2, h3⟩ => ?_
  simp only [stripF_padded _ _ h1, stripF_padded _ _ h2, stripF_padded _ _ h3,
    contains_map_inj render hinj, idxOf_map_inj render hinj, and_self]

/-- **Field-level slicer, observation axis** (`_partial`): the same, under the extra guard that no
row field carries padding AFTER the number (the path tests the left-stripped field; Python's `json`
never writes a blank before a comma). -/
theorem slice_fields_obs_eq_partial (render : Nat → Text) (hinj : ∀ a b, render a = render b → a = b)
    (triples : List (Nat × Nat × Text)) (recs : List (Text × Text × Text))
    (h : RecsOf render triples recs) (hnotrail : ∀ f ∈ recs, lstripF f.1 = stripF f.1) (sk : List Nat) :
    sliceFields render recs sk .obs =
        (triples.filter (fun t => sk.contains t.1)).map
          (fun t => (render (sk.idxOf t.1), render t.2.1, t.2.2)) := by
  refine h.filter_map _ _ _ _ fun t f hf ⟨h1, h2, h3⟩ => ?_
  simp only [hnotrail f hf, stripF_padded _ _ h1, stripF_padded _ _ h2, stripF_padded _ _ h3,
    contains_map_inj render hinj, idxOf_map_inj render hinj, and_self]

/-- the guard is needed: a blank between the row number and the comma (`[0 ,1,5]`, valid JSON)
makes the observation path drop the record -/
theorem slice_fields_obs_trailing_blank_witness :
    sliceFields (fun n => (List.replicate n 'i')) [(['[', 'i', ' '], ['i'], ['5', ']'])] [1] .obs = [] ∧
    sliceFields (fun n => (List.replicate n 'i')) [(['[', 'i', ' '], ['i'], ['5', ']'])] [1] .samp =
      [(['i'], [], ['5'])] := by
  constructor <;> decide +kernel

/-! ## Witnesses: where the raw-text scanner leaves the property's domain (recorded findings) -/

def okIs (r : Except Err Text) (expected : Text) : Bool :=
  match r with
  | .ok t => t == expected
  | .error _ => false

def isIndexError (r : Except Err Text) : Bool :=
  match r with
  | .error .index => true
  | _ => false

def witBracketText : Text := ['"', 'r', 'o', 'w', 's', '"', ':', ' ', '[', '{', '"', 'i', 'd', '"', ':', ' ', '"', 'O', ']', '2', '"', '}', ']', ',', '"', 'c', 'o', 'l', 'u', 'm', 'n', 's', '"', ':', ' ', '[', '{', '"', 'i', 'd', '"', ':', ' ', '"', 'S', '1', '"', '}', ']', '}']
def witBracketWant : Text := ['"', 'r', 'o', 'w', 's', '"', ':', ' ', '[', '{', '"', 'i', 'd', '"', ':', ' ', '"', 'O', ']', '2', '"', '}', ']']
def witQuoteText : Text := ['"', 'r', 'o', 'w', 's', '"', ':', ' ', '[', '{', '"', 'i', 'd', '"', ':', ' ', '"', 'O', '\\', '"', '2', '"', '}', ']', ',', '"', 'c', 'o', 'l', 'u', 'm', 'n', 's', '"', ':', ' ', '[', '{', '"', 'i', 'd', '"', ':', ' ', '"', 'S', '1', '"', '}', ']', '}']
def witQuoteWant : Text := ['"', 'r', 'o', 'w', 's', '"', ':', ' ', '[', '{', '"', 'i', 'd', '"', ':', ' ', '"', 'O', '\\', '"', '2', '"', '}', ']']
def witHeaderText : Text := ['"', 'g', 'e', 'n', 'e', 'r', 'a', 't', 'e', 'd', '_', 'b', 'y', '"', ':', ' ', '"', 'a', ',', ' ', 'b', '"', ',', '"', 'd', 'a', 't', 'e', '"', ':', ' ', '"', 'd', '"', '}']
def witHeaderGot : Text := ['"', 'g', 'e', 'n', 'e', 'r', 'a', 't', 'e', 'd', '_', 'b', 'y', '"', ':', ' ', '"', 'a']
def witMdKeyText : Text := ['"', 'r', 'o', 'w', 's', '"', ':', ' ', '[', '{', '"', 'i', 'd', '"', ':', ' ', '"', 'O', '1', '"', ',', ' ', '"', 'm', 'e', 't', 'a', 'd', 'a', 't', 'a', '"', ':', ' ', '{', '"', 'c', 'o', 'l', 'u', 'm', 'n', 's', '"', ':', ' ', '"', 'a', '"', '}', '}', ']', ',', '"', 'c', 'o', 'l', 'u', 'm', 'n', 's', '"', ':', ' ', '[', '{', '"', 'i', 'd', '"', ':', ' ', '"', 'S', '1', '"', ',', ' ', '"', 'm', 'e', 't', 'a', 'd', 'a', 't', 'a', '"', ':', ' ', 'n', 'u', 'l', 'l', '}', ']', '}']
def witMdKeyGot : Text := ['"', 'c', 'o', 'l', 'u', 'm', 'n', 's', '"', ':', ' ', '"', 'a', '"']
def goodText : Text := ['{', '"', 'i', 'd', '"', ':', ' ', '"', 'N', 'o', 'n', 'e', '"', ',', '"', 't', 'y', 'p', 'e', '"', ':', ' ', 'n', 'u', 'l', 'l', ',', '"', 's', 'h', 'a', 'p', 'e', '"', ':', ' ', '[', '2', ',', ' ', '3', ']', ',', '"', 'd', 'a', 't', 'a', '"', ':', ' ', '[', '[', '0', ',', '0', ',', '1', '.', '0', ']', ',', '[', '0', ',', '1', ',', '2', '.', '0', ']', ',', '[', '1', ',', '1', ',', '3', '.', '0', ']', ',', '[', '1', ',', '2', ',', '4', '.', '0', ']', ']', ',', '"', 'r', 'o', 'w', 's', '"', ':', ' ', '[', '{', '"', 'i', 'd', '"', ':', ' ', '"', 'O', '1', '"', '}', ']', '}']

/-- F-C14-1: `direct_parse_key` is not string-aware — with the row ID `O]2` the bracket inside the
string closes the array early and the scan runs on past the value into `columns`;
with the row ID `O"2` the escaped quote toggles the string state. Neither returns the `rows` value. -/
theorem parse_key_bracket_in_string_witness :
    okIs (directParseKey witBracketText ['r', 'o', 'w', 's']) witBracketWant = false ∧
    okIs (directParseKey witQuoteText ['r', 'o', 'w', 's']) witQuoteWant = false := by
  constructor <;> decide +kernel

/-- F-C14-3: a header string is copied by the "number" branch (scan until `,` `{` `}`):
`"generated_by": "a, b"` is cut at the comma inside the string. -/
theorem parse_key_header_comma_witness :
    okIs (directParseKey witHeaderText ['g','e','n','e','r','a','t','e','d','_','b','y']) witHeaderGot = true := by
  decide +kernel

/-- F-C14-2: the search for `"columns":` finds an observation-metadata category of that name
inside `rows` before the top-level key. -/
theorem parse_key_mdkey_columns_witness :
    okIs (directParseKey witMdKeyText ['c','o','l','u','m','n','s']) witMdKeyGot = true := by
  decide +kernel

/-- on text without such strings the scanner returns the values (a character-level example) -/
example : okIs (directParseKey goodText ['s','h','a','p','e']) ['"', 's', 'h', 'a', 'p', 'e', '"', ':', ' ', '[', '2', ',', ' ', '3', ']'] = true := by decide +kernel
example : okIs (directParseKey goodText ['t','y','p','e']) ['"', 't', 'y', 'p', 'e', '"', ':', ' ', 'n', 'u', 'l', 'l', ',', '"', 's', 'h', 'a', 'p', 'e', '"', ':', ' ', '[', '2'] = true := by decide +kernel
example : okIs (directParseKey goodText ['a','b','s','e','n','t']) [] = true := by decide +kernel

/-! ## Non-vacuity: the hypotheses are met by concrete non-trivial inputs -/

deriving instance DecidableEq for Except

/-- a 2×3 file: O1 = [1,2,0], O2 = [0,3,4]; observation metadata; both matrix groups -/
def exF : H5 Int :=
  { obs := { ids := ["O1", "O2"], md := some [[("k", "\"a\"")], [("k", "\"b\"")]],
             indptr := [0, 2, 4], indices := [0, 1, 1, 2], data := [1, 2, 3, 4] },
    samp := { ids := ["S1", "S2", "S3"], md := none,
              indptr := [0, 1, 3, 4], indices := [0, 0, 1, 1], data := [1, 2, 3, 4] },
    shape := (2, 3), ttype := some "OTU table" }

theorem exF_ok_samp : H5.OK exF .samp :=
  ⟨⟨rfl, rfl, (CS.wfb_iff _).mp (by decide +kernel), by decide +kernel,
    fun m h => by cases h; rfl, fun m h => by cases h⟩, by decide +kernel, by decide +kernel⟩

theorem exF_ok_obs : H5.OK exF .obs :=
  ⟨⟨rfl, rfl, (CS.wfb_iff _).mp (by decide +kernel), by decide +kernel,
    fun m h => by cases h; rfl, fun m h => by cases h⟩, by decide +kernel, by decide +kernel⟩

/-- requested in reverse order: file order comes back; nothing becomes empty -/
example : h5Subset exF ["S3", "S1"] .samp =
    .ok { obs := ["O1", "O2"], samp := ["S1", "S3"], rows := [[1, 0], [0, 4]],
          omd := some [[("k", "\"a\"")], [("k", "\"b\"")]], smd := none, ttype := some "OTU table" } := by
  rw [h5subset_eq exF _ _ exF_ok_samp.wf (by decide +kernel) (by decide +kernel) (by decide +kernel)]; decide +kernel

/-- keeping S1 empties O2, which the default path drops and the metadata-free variant keeps -/
example : h5Subset exF ["S1"] .samp =
    .ok { obs := ["O1"], samp := ["S1"], rows := [[1]],
          omd := some [[("k", "\"a\"")]], smd := none, ttype := some "OTU table" } := by
  rw [h5subset_eq exF _ _ exF_ok_samp.wf (by decide +kernel) (by decide +kernel) (by decide +kernel)]; decide +kernel

example : h5SubsetNoMd exF ["S1"] .samp =
    .ok { obs := ["O1", "O2"], samp := ["S1"], rows := [[1], [0]], omd := none, smd := none,
          ttype := none } := by decide +kernel

example : h5Subset exF ["O2"] .obs =
    .ok { obs := ["O2"], samp := ["S2", "S3"], rows := [[3, 4]],
          omd := some [[("k", "\"b\"")]], smd := none, ttype := some "OTU table" } := by
  rw [h5subset_eq exF _ _ exF_ok_obs.wf (by decide +kernel) (by decide +kernel) (by decide +kernel)]; decide +kernel

example : h5Subset exF ["S1", "nope"] .samp = .error .value :=
  h5subset_unknown_refused exF _ .samp (by decide +kernel) "nope" (by decide +kernel) (by decide +kernel)
example : h5Subset exF ["S1", "S1"] .samp = .error .value :=
  h5subset_repeated_refused exF _ .samp (by decide +kernel) (by decide +kernel)
example : h5SubsetNoMd exF ["S1", "nope"] .samp = .error .value := by decide +kernel

/-- the two matrix groups of the example describe the same table -/
example : fromFile exF .samp = fromFile exF .obs := by decide +kernel

/-- the theorems apply to the example -/
example : holds (fromFile exF .samp) ["S3", "S1"] .samp .h5 (h5Subset exF ["S3", "S1"] .samp) = true :=
  model_holds exF .samp exF_ok_samp _ .h5 (Or.inl rfl)

/-- `holds` is not trivially true: it rejects the unfiltered table, a result in request order, and
a result whose emptied observation was not dropped -/
example : holds (fromFile exF .samp) ["S3", "S1"] .samp .h5 (.ok (fromFile exF .samp)) = false := by decide +kernel
example : holds (fromFile exF .samp) ["S3", "S1"] .samp .h5
    (.ok { obs := ["O1", "O2"], samp := ["S3", "S1"], rows := [[0, 1], [4, 0]],
           omd := some [[("k", "\"a\"")], [("k", "\"b\"")]], smd := none, ttype := some "OTU table" }) = false := by
  decide +kernel
example : holds (fromFile exF .samp) ["S1"] .samp .h5
    (.ok { obs := ["O1", "O2"], samp := ["S1"], rows := [[1], [0]],
           omd := some [[("k", "\"a\"")], [("k", "\"b\"")]], smd := none, ttype := some "OTU table" }) = false := by
  decide +kernel
example : holds (fromFile exF .samp) ["S1", "nope"] .samp .h5 (.ok (fromFile exF .samp)) = false := by decide +kernel

/-- the same table as a JSON document -/
def exD : Doc Int :=
  { rows := [⟨"O1", some [("k", "\"a\"")]⟩, ⟨"O2", some [("k", "\"b\"")]⟩],
    cols := [⟨"S1", none⟩, ⟨"S2", none⟩, ⟨"S3", none⟩], shape := (2, 3),
    data := [⟨0, 0, 1⟩, ⟨0, 1, 2⟩, ⟨1, 1, 3⟩, ⟨1, 2, 4⟩], ttype := some "OTU table" }

theorem exD_ok : Doc.OK exD := ⟨⟨rfl, rfl, by decide +kernel⟩, by decide +kernel, by decide +kernel⟩

example : MdUniform (exD.recs .samp) := Or.inl (by decide +kernel)
example : MdUniform (exD.recs .obs) := Or.inr (by decide +kernel)

example : cmdJson exD ["S3", "S1"] .samp =
    .ok { obs := ["O1", "O2"], samp := ["S1", "S3"], rows := [[1, 0], [0, 4]],
          omd := some [[("k", "\"a\"")], [("k", "\"b\"")]], smd := none, ttype := some "OTU table" } := by
  rw [cmd_json_eq exD _ .samp exD_ok.wf (Or.inl (by decide +kernel)) (by decide +kernel) (by decide +kernel)]; decide +kernel

/-- the command keeps the emptied observation (documented), `parse_table(ids=…)` drops it -/
example : cmdJson exD ["S1"] .samp =
    .ok { obs := ["O1", "O2"], samp := ["S1"], rows := [[1], [0]],
          omd := some [[("k", "\"a\"")], [("k", "\"b\"")]], smd := none, ttype := some "OTU table" } := by
  rw [cmd_json_eq exD _ .samp exD_ok.wf (Or.inl (by decide +kernel)) (by decide +kernel) (by decide +kernel)]; decide +kernel

example : jsonSubset exD ["S1"] .samp =
    .ok { obs := ["O1"], samp := ["S1"], rows := [[1]],
          omd := some [[("k", "\"a\"")]], smd := none, ttype := some "OTU table" } := by decide +kernel

example : cmdJson exD ["S1", "nope"] .samp = .error .key := by decide +kernel

end Biom.C14
