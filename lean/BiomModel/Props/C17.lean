/-
  C17 — property theorems.  Every quantifier is unbounded: all grid shapes n, m ≥ 1, all values, all
  ID lists, all encodings of a grid in every accepted form (any number of repeated coordinates and
  explicit zeros, any order), all metadata arguments, all adjacency / uc documents.
-/
import BiomModel.Lemmas.C17

namespace Biom.C17
open Codec

/-- the table the constructor is to produce from an input describing the grid `D` -/
def built (inp : Input) (D : Grid) : Table Rat :=
  { obs := inp.obs, samp := inp.samp, rows := D, omd := mdOut inp.omd, smd := mdOut inp.smd }

/-- for an `if` whose branches are large terms, where `split` is slow to check -/
theorem ite_eq_of {α : Type} {P : Prop} [Decidable P] {a b c : α} (h₁ : P → a = c) (h₂ : ¬P → b = c) :
    (if P then a else b) = c := by
  split
  · exact h₁ ‹_›
  · exact h₂ ‹_›

theorem allV_pair (c₁ c₂ : String) (b₁ b₂ : Bool) (h₁ : b₁ = true) (h₂ : b₂ = true) :
    allV [chk c₁ b₁, chk c₂ b₂] = none := by
  subst h₁ h₂; rfl

/-! ### accepted forms agree -/

theorem construct_of_toSparse (inp : Input) (M : Mat)
    (h : toSparse inp.data inp.inputIsDense (inp.obs.length, inp.samp.length) = .ok M) :
    construct inp = finish defaultProfile M inp.obs inp.samp inp.omd inp.smd := by
  unfold construct constructWith
  rw [h]; rfl

/-- **forms_agree.** For every grid `D` (any shape n, m ≥ 1), every value that describes `D` in one
of the accepted forms — whatever the form, however often a coordinate is repeated (the values add
up), wherever zeros are named explicitly — is built into the table with exactly the given IDs, the
grid `D`, and the given (well-formed) metadata. -/
theorem forms_agree (inp : Input) (D : Grid) (n m : Nat)
    (henc : encodes inp.data inp.inputIsDense D n m = true)
    (hlo : inp.obs.length = n) (hls : inp.samp.length = m)
    (hno : inp.obs.Nodup) (hns : inp.samp.Nodup)
    (hmo : mdBad inp.omd inp.obs = false) (hms : mdBad inp.smd inp.samp = false) :
    construct inp = .ok (built inp D) := by
  obtain ⟨_, hn, hm⟩ := encodes_dims _ _ _ _ _ henc
  have hts := toSparse_of_encodes inp.data inp.inputIsDense D n m (inp.obs.length, inp.samp.length) henc
    (Or.inr (by rw [hlo, hls]))
  have ho : inp.obs ≠ [] := fun e => by rw [e] at hlo; exact Nat.ne_of_gt hn hlo.symm
  have hs : inp.samp ≠ [] := fun e => by rw [e] at hls; exact Nat.ne_of_gt hm hls.symm
  rw [construct_of_toSparse inp _ hts]
  exact finish_accept ⟨n, m, D⟩ inp.obs inp.samp inp.omd inp.smd ho hs hno hns hlo hls hmo hms

/-- two values describing the same grid, given the same IDs and metadata, give the same table -/
theorem forms_agree_pair (a b : Input) (D : Grid) (n m : Nat)
    (ha : encodes a.data a.inputIsDense D n m = true) (hb : encodes b.data b.inputIsDense D n m = true)
    (hobs : b.obs = a.obs) (hsamp : b.samp = a.samp) (homd : b.omd = a.omd) (hsmd : b.smd = a.smd)
    (hlo : a.obs.length = n) (hls : a.samp.length = m) (hno : a.obs.Nodup) (hns : a.samp.Nodup)
    (hmo : mdBad a.omd a.obs = false) (hms : mdBad a.smd a.samp = false) :
    construct a = construct b := by
  rw [forms_agree a D n m ha hlo hls hno hns hmo hms,
    forms_agree b D n m hb (by rw [hobs, hlo]) (by rw [hsamp, hls]) (by rw [hobs]; exact hno)
      (by rw [hsamp]; exact hns) (by rw [hobs, homd]; exact hmo) (by rw [hsamp, hsmd]; exact hms),
    built, built, hobs, hsamp, homd, hsmd]

/-- an explicitly named zero does not change any cell of a coordinate form -/
theorem explicit_zero_irrelevant (ts : List Triple) (r c i j : Nat) :
    cellSum (ts ++ [(r, c, 0)]) i j = cellSum ts i j := by
  rw [cellSum_append, cellSum_cons, cellSum_nil]
  split <;> simp [Rat.add_zero]

/-- a repeated coordinate adds to its cell and to no other -/
theorem duplicates_summed (ts : List Triple) (r c : Nat) (v : Rat) (i j : Nat) :
    cellSum (ts ++ [(r, c, v)]) i j = if r = i ∧ c = j then cellSum ts i j + v else cellSum ts i j := by
  rw [cellSum_append, cellSum_cons, cellSum_nil]
  split <;> simp [Rat.add_zero]

/-! ### malformed input is rejected -/

/-- either `_to_sparse` hands the described grid on, or (dense nested lists whose shape is not the
announced one) it has already raised the table error -/
theorem construct_cases (inp : Input) (D : Grid) (n m : Nat)
    (henc : encodes inp.data inp.inputIsDense D n m = true)
    (hsh : carriesShape inp.data inp.inputIsDense = true ∨ (inp.obs.length = n ∧ inp.samp.length = m)) :
    construct inp = finish defaultProfile ⟨n, m, D⟩ inp.obs inp.samp inp.omd inp.smd ∨
    (construct inp = .error .tableException ∧ (inp.obs.length ≠ n ∨ inp.samp.length ≠ m)) := by
  by_cases hmatch : (inp.obs.length, inp.samp.length) = (n, m)
  · left
    exact construct_of_toSparse inp _ (toSparse_of_encodes inp.data inp.inputIsDense D n m _ henc (Or.inr hmatch))
  · have hcs := hsh.resolve_right fun h => hmatch (by rw [h.1, h.2])
    cases hown : ownShape inp.data with
    | true =>
      left
      exact construct_of_toSparse inp _ (toSparse_of_encodes inp.data inp.inputIsDense D n m _ henc (Or.inl hown))
    | false =>
      right
      constructor
      · unfold construct constructWith
        rw [toSparse_shape_mismatch _ _ D n m _ henc hcs hown hmatch]; rfl
      · by_cases h1 : inp.obs.length = n
        · right; intro h2; exact hmatch (by rw [h1, h2])
        · left; exact h1

/-- **reject_dup.** A non-empty table whose observation or sample IDs repeat an ID — anywhere on the
axis — is refused with the table error, for every form of the data. -/
theorem reject_dup (inp : Input) (D : Grid) (n m : Nat)
    (henc : encodes inp.data inp.inputIsDense D n m = true)
    (hsh : carriesShape inp.data inp.inputIsDense = true ∨ (inp.obs.length = n ∧ inp.samp.length = m))
    (ho : inp.obs ≠ []) (hs : inp.samp ≠ []) (hdup : ¬ inp.obs.Nodup ∨ ¬ inp.samp.Nodup) :
    construct inp = .error .tableException := by
  rcases construct_cases inp D n m henc hsh with h | h
  · rw [h]
    apply finish_reject_ids _ _ _ _ _ ho hs
    rcases hdup with h | h
    · exact Or.inl h
    · exact Or.inr (Or.inl h)
  · exact h.1

/-- **reject_size.** A non-empty table whose ID counts disagree with the shape of the matrix (too few
or too many IDs on either axis) is refused with the table error. -/
theorem reject_size (inp : Input) (D : Grid) (n m : Nat)
    (henc : encodes inp.data inp.inputIsDense D n m = true)
    (hcs : carriesShape inp.data inp.inputIsDense = true)
    (ho : inp.obs ≠ []) (hs : inp.samp ≠ []) (hsz : inp.obs.length ≠ n ∨ inp.samp.length ≠ m) :
    construct inp = .error .tableException := by
  rcases construct_cases inp D n m henc (Or.inl hcs) with h | h
  · rw [h]
    apply finish_reject_ids _ _ _ _ _ ho hs
    rcases hsz with h | h
    · exact Or.inr (Or.inr (Or.inl h))
    · exact Or.inr (Or.inr (Or.inr h))
  · exact h.1

/-- **reject_md.** A non-empty table with metadata that is not one mapping-or-null per ID (too short,
too long, or containing an entry that is neither a mapping nor null) is refused with the table
error. -/
theorem reject_md (inp : Input) (D : Grid) (n m : Nat)
    (henc : encodes inp.data inp.inputIsDense D n m = true)
    (hsh : carriesShape inp.data inp.inputIsDense = true ∨ (inp.obs.length = n ∧ inp.samp.length = m))
    (ho : inp.obs ≠ []) (hs : inp.samp ≠ [])
    (hmd : mdBad inp.omd inp.obs = true ∨ mdBad inp.smd inp.samp = true) :
    construct inp = .error .tableException := by
  rcases construct_cases inp D n m henc hsh with h | h
  · rw [h]; exact finish_reject_md _ _ _ _ _ ho hs hmd
  · exact h.1

/-- **profile_empty_irrelevant.** For a non-empty table, a profile that differs from the default one
only in the reaction to `empty` (errstate(empty='raise'/'warn'/'print'/'call')) changes nothing. -/
theorem profile_empty_irrelevant (prof : String → String) (inp : Input)
    (hp : ∀ k, k ≠ "empty" → prof k = defaultProfile k) (ho : inp.obs ≠ []) (hs : inp.samp ≠ []) :
    constructWith prof inp = construct inp := by
  have hp' : ∀ k, k ≠ "empty" → prof k = "raise" := fun k hk => (hp k hk).trans (defaultProfile_raise k hk)
  exact bind_congr fun M => (finish_nonempty prof hp' M _ _ _ _ ho hs).trans
    (finish_nonempty _ defaultProfile_raise M _ _ _ _ ho hs).symm

/-! ### the predicate holds of the model -/

theorem tableIs_built (inp : Input) (D : Grid) (n m : Nat) (hD : gridIs D n m = true)
    (hlo : inp.obs.length = n) (hls : inp.samp.length = m) (hno : inp.obs.Nodup) (hns : inp.samp.Nodup)
    (hmo : mdBad inp.omd inp.obs = false) (hms : mdBad inp.smd inp.samp = false) :
    tableIs (built inp D) inp.obs inp.samp D = true := by
  have hl := (gridIs_iff D n m).mp hD
  simp only [tableIs, built, Bool.and_eq_true, beq_iff_eq, true_and]
  refine ⟨?_, ?_⟩
  · simp only [Table.wfb, Bool.and_eq_true, beq_iff_eq, List.all_eq_true]
    refine ⟨⟨⟨by rw [hl.1, hlo], fun r hr => by rw [hl.2 r hr, hls]⟩, ?_⟩, ?_⟩
    · cases h : mdOut inp.omd with
      | none => rfl
      | some l => simp [mdOut_length _ _ hmo l h]
    · cases h : mdOut inp.smd with
      | none => rfl
      | some l => simp [mdOut_length _ _ hms l h]
  · rw [allCells_iff]
    intro i j hi hj
    rw [beq_iff_eq]
    exact cell_of_grid _ D n m hD rfl hno hns hlo hls i j (hlo ▸ hi) (hls ▸ hj)

theorem mdIs_built (inp : Input) (D : Grid) (hno : inp.obs.Nodup) (hns : inp.samp.Nodup) :
    mdIs (built inp D) inp = true := by
  simp only [mdIs, built, Bool.and_eq_true, List.all_eq_true, List.mem_range, beq_iff_eq]
  exact ⟨fun i hi => mdOf_spec inp.obs inp.omd hno i hi, fun j hj => mdOf_spec inp.samp inp.smd hns j hj⟩

/-- **independent_model.** What the constructor returns is a value of its own: whatever happens later
(to the object it was built from, to the ID and metadata arguments, to other tables built from the
same object), every later look at it shows the described grid and IDs, by position and by ID. -/
theorem independent_model (inp : Input) (D : Grid) (n m : Nat)
    (henc : encodes inp.data inp.inputIsDense D n m = true)
    (hlo : inp.obs.length = n) (hls : inp.samp.length = m) (hno : inp.obs.Nodup) (hns : inp.samp.Nodup)
    (hmo : mdBad inp.omd inp.obs = false) (hms : mdBad inp.smd inp.samp = false)
    (whats : List String) (kept : List Bool) (hk : kept.all id = true) :
    construct inp = .ok (built inp D) ∧
    holdsIndependent inp D (whats.map (fun w => ⟨w, built inp D, some D⟩)) kept = none := by
  refine ⟨forms_agree inp D n m henc hlo hls hno hns hmo hms, ?_⟩
  obtain ⟨hD, _, _⟩ := encodes_dims _ _ _ _ _ henc
  have hok : ∀ w, stageOk inp D ⟨w, built inp D, some D⟩ = true := by
    intro w
    simp only [stageOk, tableIs_built inp D n m hD hlo hls hno hns hmo hms, mdIs_built inp D hno hns,
      Bool.true_and, hlo, hls, hD]
    rw [allCells_iff]; intro i j _ _; simp
  have hfind : (whats.map (fun w => (⟨w, built inp D, some D⟩ : Stage))).find?
      (fun st => !stageOk inp D st) = none := by
    rw [List.find?_eq_none]
    intro st hst
    rw [List.mem_map] at hst
    obtain ⟨w, _, rfl⟩ := hst
    simp [hok w]
  simp only [holdsIndependent, hfind, hk, chk, if_true]

/-- **model_holds.** The constructor part of the property is true of the model on every input whose
data is an accepted encoding of a grid: rejection with the table error in each malformed case,
the grid, IDs and metadata looked up through the IDs otherwise. -/
theorem model_holds (c : Case)
    (henc : encodes c.inp.data c.inp.inputIsDense c.grid c.n c.m = true)
    (hsh : carriesShape c.inp.data c.inp.inputIsDense = true ∨
      (c.inp.obs.length = c.n ∧ c.inp.samp.length = c.m)) :
    holdsConstruct c (construct c.inp) = none := by
  have hpre : (encodes c.inp.data c.inp.inputIsDense c.grid c.n c.m &&
      (carriesShape c.inp.data c.inp.inputIsDense ||
        (c.n == c.inp.obs.length && c.m == c.inp.samp.length))) = true := by
    rw [henc, Bool.true_and]
    rcases hsh with h | h
    · rw [h]; rfl
    · rw [h.1, h.2, beq_self_eq_true, beq_self_eq_true]; exact Bool.or_true _
  simp only [holdsConstruct, hpre, Bool.not_true, Bool.false_eq_true, if_false]
  refine ite_eq_of (fun _ => rfl) fun hempty => ?_
  simp only [Bool.or_eq_true, List.isEmpty_iff, not_or] at hempty
  obtain ⟨ho, hs⟩ := hempty
  refine ite_eq_of (fun hd => ?_) fun hd => ?_
  · simp only [distinct, Bool.not_eq_true', Bool.and_eq_false_iff, decide_eq_false_iff_not] at hd
    rw [reject_dup c.inp c.grid c.n c.m henc hsh ho hs hd]; rfl
  simp only [distinct, Bool.not_eq_true', Bool.not_eq_false, Bool.and_eq_true, decide_eq_true_eq] at hd
  refine ite_eq_of (fun hsz => ?_) fun hsz => ?_
  · simp only [Bool.or_eq_true, bne_iff_ne, ne_eq] at hsz
    have hcs := hsh.resolve_right fun h => hsz.elim (· h.1) (· h.2)
    rw [reject_size c.inp c.grid c.n c.m henc hcs ho hs hsz]; rfl
  simp only [Bool.or_eq_true, bne_iff_ne, ne_eq, not_or, Decidable.not_not] at hsz
  refine ite_eq_of (fun hmd => ?_) fun hmd => ?_
  · rw [reject_md c.inp c.grid c.n c.m henc hsh ho hs (Bool.or_eq_true_iff.mp hmd)]; rfl
  simp only [Bool.or_eq_true, not_or, Bool.not_eq_true] at hmd
  rw [forms_agree c.inp c.grid c.n c.m henc hsz.1 hsz.2 hd.1 hd.2 hmd.1 hmd.2]
  exact allV_pair _ _ _ _
    (tableIs_built c.inp c.grid c.n c.m (encodes_dims _ _ _ _ _ henc).1 hsz.1 hsz.2 hd.1 hd.2 hmd.1 hmd.2)
    (mdIs_built c.inp c.grid hd.1 hd.2)

/-! ### adjacency lists -/

/-- the grid of an adjacency document: one row per distinct observation, one column per distinct
sample (both in sorted order), each cell the stored values of its coordinates added up -/
def adjGrid (recs : List (String × String × Rat)) : Grid :=
  let oo := sortDedup (recs.map (·.1))
  let so := sortDedup (recs.map (·.2.1))
  tabulate oo.length so.length (cellSum (adjTriples oo so recs))

def adjTable (recs : List (String × String × Rat)) : Table Rat :=
  { obs := sortDedup (recs.map (·.1)), samp := sortDedup (recs.map (·.2.1)), rows := adjGrid recs }

theorem construct_sparse (M : Mat) (obs samp : List Id) (ho : obs ≠ []) (hs : samp ≠ [])
    (hno : obs.Nodup) (hns : samp.Nodup) (hlo : obs.length = M.nR) (hls : samp.length = M.nC) :
    construct { data := .sparse M, obs := obs, samp := samp } =
      .ok { obs := obs, samp := samp, rows := M.rows } :=
  finish_accept M obs samp none none ho hs hno hns hlo hls rfl rfl

/-- `from_adjacency` on a document with at least one record, all of them well-formed, produces the
table over the sorted ID sets -/
theorem adjacency_table (lines body : List AdjLine) (recs : List (String × String × Rat))
    (hb : adjBody lines = .ok body) (hr : body.mapM adjRecord = .ok recs) (hne : recs ≠ []) :
    fromAdjacency lines = .ok (adjTable recs) := by
  have hno := nodup_of_sorted _ (sortDedup_sorted (recs.map (·.1)))
  have hns := nodup_of_sorted _ (sortDedup_sorted (recs.map (·.2.1)))
  obtain ⟨ho, hs, hM⟩ := cooArraysToSparse_adjTriples _ _ recs hne hno hns (mem_sortDedup _) (mem_sortDedup _)
  simp only [fromAdjacency, hb, hr, bind, Except.bind, hM]
  exact construct_sparse _ _ _ ho hs hno hns rfl rfl

/-- **adjacency_cell.** In the table built from an adjacency list the observation and sample IDs
are the sorted sets of the names used, and the cell of (o, s) is the sum of the values of the
records naming that pair. -/
theorem adjacency_cell (recs : List (String × String × Rat)) (o s : String)
    (ho : o ∈ (adjTable recs).obs) (hs : s ∈ (adjTable recs).samp) :
    (adjTable recs).cell? o s = some (adjSum recs o s) := by
  rw [← cellSum_adjTriples _ _ recs o s fun r hr =>
    ⟨(mem_sortDedup _ _).mpr (List.mem_map_of_mem (f := (·.1)) hr),
      (mem_sortDedup _ _).mpr (List.mem_map_of_mem (f := (·.2.1)) hr)⟩]
  exact cell_tabulate _ _ _ (nodup_of_sorted _ (sortDedup_sorted _)) (nodup_of_sorted _ (sortDedup_sorted _))
    o s ho hs

/-- the ID lists of the adjacency table: strictly increasing, and exactly the names used -/
theorem adjacency_ids (recs : List (String × String × Rat)) :
    (adjTable recs).obs.Pairwise (· < ·) ∧ (adjTable recs).samp.Pairwise (· < ·) ∧
    (∀ o, o ∈ (adjTable recs).obs ↔ o ∈ recs.map (·.1)) ∧
    (∀ s, s ∈ (adjTable recs).samp ↔ s ∈ recs.map (·.2.1)) :=
  ⟨sortDedup_sorted _, sortDedup_sorted _, mem_sortDedup _, mem_sortDedup _⟩

/-! ### the adjacency predicate holds of the model -/

theorem adjTable_wfb (recs : List (String × String × Rat)) : (adjTable recs).wfb = true :=
  wfb_tabulate _ _ _

/-- the `if` of `holdsAdj`, on the record lines `body` that `adjBody` returns -/
theorem holdsAdj_of_body (lines body : List AdjLine) (hb : adjBody lines = .ok body) :
    (if body.isEmpty || !body.all adjValid then chk "adjacency_reject" (noTable (fromAdjacency lines))
     else match fromAdjacency lines with
      | .error _ => some "adjacency_accept"
      | .ok t => allV [
        chk "adjacency_ids" (sortedB t.obs && sortedB t.samp && sameMembers t.obs ((body.map adjRecOf).map (·.1)) &&
          sameMembers t.samp ((body.map adjRecOf).map (·.2.1)) && t.wfb),
        chk "adjacency_cell" (t.obs.all fun o => t.samp.all fun s =>
          t.cell? o s == some (adjSum (body.map adjRecOf) o s))]) = none := by
  cases hv : body.all adjValid with
  | false =>
    obtain ⟨e, he⟩ := mapM_adjRecord_err body hv
    have : fromAdjacency lines = .error e := by simp only [fromAdjacency, hb, bind, Except.bind, he]
    rw [this, Bool.not_false, Bool.or_true, if_pos rfl]; rfl
  | true =>
    cases body with
    | nil =>
      have : fromAdjacency lines = .error .value := by
        simp only [fromAdjacency, hb, bind, Except.bind, List.mapM_nil, pure, Except.pure, List.map_nil,
          adjTriples, cooArraysToSparse, List.isEmpty_nil, if_true]
      rw [this]; rfl
    | cons l ls =>
      rw [adjacency_table lines _ _ hb (mapM_adjRecord_ok _ hv) (List.cons_ne_nil _ _)]
      obtain ⟨h1, h2, h3, h4⟩ := adjacency_ids ((l :: ls).map adjRecOf)
      refine allV_pair _ _ _ _ ?_ ?_
      · rw [sortedB_of_pairwise _ h1, sortedB_of_pairwise _ h2, sameMembers_of_iff _ _ h3,
          sameMembers_of_iff _ _ h4, adjTable_wfb]; rfl
      · simp only [List.all_eq_true, beq_iff_eq]
        exact fun o ho s hs => adjacency_cell _ o s ho hs

/-- **adj_model_holds.** The adjacency part of the property is true of the model on every document:
a document without records or with a malformed line gives no table; every other document gives
the table over the sorted ID sets whose cells are the sums of the records naming them. -/
theorem adj_model_holds (lines : List AdjLine) : holdsAdj lines (fromAdjacency lines) = none := by
  cases lines with
  | nil => rfl
  | cons l0 rest =>
    simp only [holdsAdj]
    by_cases hh : (l0.fields == adjHeader) = true
    · have hbody : adjBody (l0 :: rest) = .ok rest := by
        simp only [adjBody, beq_iff_eq.mp hh, adjHeader, List.length_cons, List.length_nil, ne_eq,
          not_true_eq_false, if_false, if_true]
      rw [if_pos hh]
      exact holdsAdj_of_body _ rest hbody
    · rw [if_neg hh]
      have hf : l0.fields ≠ adjHeader := fun e => hh (beq_iff_eq.mpr e)
      cases hv0 : adjValid l0 with
      | true =>
        have hv := hv0
        simp only [adjValid, Bool.and_eq_true, beq_iff_eq] at hv
        have hbody : adjBody (l0 :: rest) = .ok (l0 :: rest) := by
          simp only [adjBody, hv.1, hf, hv.2, ne_eq, not_true_eq_false, if_false, if_true]
        exact holdsAdj_of_body _ _ hbody
      | false =>
        -- a first line that is neither the header nor a record: `adjBody` refuses it
        have hbody : adjBody (l0 :: rest) = .error .value := by
          simp only [adjValid, Bool.and_eq_false_iff, beq_eq_false_iff_ne, Option.isSome_eq_false_iff,
            Option.isNone_iff_eq_none] at hv0
          simp only [adjBody, hf, if_false]
          rcases hv0 with h | h
          · rw [if_pos h]
          · rw [h]; split <;> rfl
        have : fromAdjacency (l0 :: rest) = .error .value := by
          simp only [fromAdjacency, hbody, bind, Except.bind]
        rw [this, List.all_cons, hv0]
        rfl

/-! ### uc cluster files -/

/-- a coordinate dictionary with distinct in-range keys, with any distinct IDs (possibly none on an
axis): the constructor produces the table whose cells are the stored values -/
theorem construct_dict (d : Dict) (obs samp : List Id) (hno : obs.Nodup) (hns : samp.Nodup)
    (hk : (d.map (·.1)).Nodup) (hr : ∀ e ∈ d, e.1.1 < obs.length ∧ e.1.2 < samp.length) :
    construct { data := .dict d, obs := obs, samp := samp } =
      .ok { obs := obs, samp := samp,
            rows := tabulate obs.length samp.length (fun i j => (d.lookup (i, j)).getD 0) } := by
  have hrange : inRange obs.length samp.length (dictTriples d) = true := (inRange_dictTriples _ _ d).mpr hr
  have hgrid : tabulate obs.length samp.length (cellSum (dictTriples d)) =
      tabulate obs.length samp.length (fun i j => (d.lookup (i, j)).getD 0) := by
    apply tabulate_eq _ _ _ _ (gridIs_tabulate _ _ _)
    intro i j hi hj
    rw [cellD_tabulate _ _ _ _ _ hi hj, cellSum_dictTriples d hk]
  have hts : toSparse (.dict d) false (obs.length, samp.length) =
      .ok ⟨obs.length, samp.length, tabulate obs.length samp.length (fun i j => (d.lookup (i, j)).getD 0)⟩ := by
    simp only [toSparse, dictToSparse, cooArraysToSparse, cooDense, hrange, if_true, hgrid]
  rw [construct_of_toSparse _ _ hts]
  by_cases hempty : obs = [] ∨ samp = []
  · exact finish_empty _ obs samp hempty
  · have ho : obs ≠ [] := fun e => hempty (Or.inl e)
    have hs : samp ≠ [] := fun e => hempty (Or.inr e)
    exact finish_accept _ obs samp none none ho hs hno hns rfl rfl rfl rfl

/-- the table `parse_uc` hands to the constructor -/
def ucTable (st : UcState) : Table Rat :=
  { obs := st.obsIds, samp := st.sampIds,
    rows := tabulate st.obsIds.length st.sampIds.length (fun i j => (st.data.lookup (i, j)).getD 0) }

theorem ucTable_wfb (st : UcState) : (ucTable st).wfb = true := wfb_tabulate _ _ _

theorem ucTable_cell (st : UcState) (recs : List UcRec) (inv : UcInv st recs) :
    ∀ o ∈ st.obsIds, ∀ s ∈ st.sampIds, (ucTable st).cell? o s = some ((ucCnt recs o s : Nat) : Rat) :=
  fun o ho s hs => (cell_tabulate _ _ _ inv.nodupO inv.nodupS o s ho hs).trans
    (congrArg some (inv.count o ho s hs))

theorem parseUc_ok (lines : List (List String)) (recs : List UcRec) (hrec : ucRecords lines = .ok recs)
    (hq : ∀ r ∈ recs, isHS r = true → (sampleOf r.query).isSome = true) :
    ∃ st, parseUc lines = .ok (ucTable st) ∧ UcInv st recs := by
  obtain ⟨st, hfold, inv⟩ := ucFold_inv recs {} [] ucInv_init hq
  refine ⟨st, ?_, inv⟩
  simp only [parseUc, hrec, hfold, bind, Except.bind, ucTable,
    construct_dict st.data st.obsIds st.sampIds inv.nodupO inv.nodupS inv.keys inv.range]

/-- **uc_cell.** For every uc document whose H/S query labels all contain an underscore, `parse_uc`
produces a table whose observation IDs are the distinct seed labels, whose sample IDs are the
distinct texts before the last underscore of the H/S query labels, and whose cell (seed, sample)
is the number of H/S records of that seed and sample. -/
theorem uc_cell (lines : List (List String)) (recs : List UcRec)
    (hrec : ucRecords lines = .ok recs)
    (hq : ∀ r ∈ recs, isHS r = true → (sampleOf r.query).isSome = true) :
    ∃ t, parseUc lines = .ok t ∧ t.obs.Nodup ∧ t.samp.Nodup ∧
      (∀ o, o ∈ t.obs ↔ ∃ r ∈ recs, r.seed = o) ∧
      (∀ s, s ∈ t.samp ↔ ∃ r ∈ recs, isHS r = true ∧ sampleOf r.query = some s) ∧
      ∀ o ∈ t.obs, ∀ s ∈ t.samp, t.cell? o s = some ((ucCnt recs o s : Nat) : Rat) := by
  obtain ⟨st, hp, inv⟩ := parseUc_ok lines recs hrec hq
  exact ⟨ucTable st, hp, inv.nodupO, inv.nodupS, inv.seeds, inv.samples, ucTable_cell st recs inv⟩

/-- the sample of a query label `s_x` is `s`: everything before the LAST underscore -/
theorem sampleOf_spec (s x : String) (h : '_' ∉ x.toList) :
    sampleOf (String.ofList (s.toList ++ '_' :: x.toList)) = some s := by
  simp only [sampleOf, String.toList_ofList, beforeLast_spec s.toList x.toList h, Option.map_some,
    String.ofList_toList]

/-- a label without any underscore has no sample (the importer refuses the file) -/
theorem sampleOf_none (q : String) (h : '_' ∉ q.toList) : sampleOf q = none := by
  simp only [sampleOf, (beforeLast_none q.toList).mpr h, Option.map_none]

/-- `from-uc` with a fasta map: the table of `parse_uc` with every seed label replaced by the label
the map gives it (a later fasta line wins); cells, samples and order are untouched -/
theorem fromUc_renames (lines : List (List String)) (fasta : List String) (t t' : Table Rat)
    (ht : parseUc lines = .ok t) (ht' : fromUc lines (some fasta) = .ok t') :
    ∃ m, fastaMap fasta = .ok m ∧ t.obs.mapM (mapGet m) = some t'.obs ∧ t'.obs.Nodup ∧
      t'.samp = t.samp ∧ t'.rows = t.rows := by
  simp only [fromUc, ht, bind, Except.bind] at ht'
  cases hm : fastaMap fasta with
  | error e => simp [hm] at ht'
  | ok m =>
    simp only [hm, renameObs] at ht'
    refine ⟨m, rfl, ?_⟩
    cases hids : t.obs.mapM (mapGet m) with
    | none => simp [hids] at ht'
    | some ids =>
      simp only [hids] at ht'
      split at ht'
      · cases ht'
      · rename_i hd
        cases ht'
        refine ⟨rfl, ?_, rfl, rfl⟩
        exact (dedup_length_eq_iff ids).mp (Decidable.not_not.mp hd)

/-! ### the uc predicate holds of the model -/

theorem isSampleOf_iff (q s : String) : isSampleOf q s = true ↔ sampleOf q = some s := by
  constructor
  · intro h
    simp only [isSampleOf, Bool.and_eq_true] at h
    obtain ⟨hp, hd⟩ := h
    have hpre : s.toList <+: q.toList := List.isPrefixOf_iff_prefix.mp hp
    obtain ⟨t, ht⟩ := hpre
    rw [← ht, List.drop_left] at hd
    cases t with
    | nil => simp at hd
    | cons c rest =>
      by_cases hc : c = '_'
      · subst hc
        have hn : '_' ∉ rest := by simpa using hd
        simp only [sampleOf, ← ht, beforeLast_spec s.toList rest hn, Option.map_some, String.ofList_toList]
      · exfalso
        split at hd
        · rename_i heq
          exact hc (List.cons.inj heq).1
        · cases hd
  · intro h
    simp only [sampleOf, Option.map_eq_some_iff] at h
    obtain ⟨p, hp, hs⟩ := h
    obtain ⟨rest, hq, hn⟩ := beforeLast_some q.toList p hp
    have hsl : s.toList = p := by rw [← hs, String.toList_ofList]
    simp only [isSampleOf, hsl, hq, Bool.and_eq_true]
    refine ⟨List.isPrefixOf_iff_prefix.mpr (List.prefix_append _ _), ?_⟩
    rw [List.drop_left]
    simpa using hn

theorem isSampleOf_eq (q s : String) : isSampleOf q s = (sampleOf q == some s) :=
  Bool.eq_iff_iff.mpr ((isSampleOf_iff q s).trans beq_iff_eq.symm)

theorem ucCount_of_label (label : String → Option String) (recs : List UcRec) (o o' s : String)
    (h : ∀ r ∈ recs, (label r.seed == some o') = (r.seed == o)) :
    ucCount label recs o' s = ((ucCnt recs o s : Nat) : Rat) := by
  rw [ucCount, ucCnt]
  refine congrArg (fun l => ((List.length l : Nat) : Rat)) (List.filter_congr fun r hr => ?_)
  rw [h r hr, isSampleOf_eq]

theorem ucCount_some (recs : List UcRec) (o s : String) :
    ucCount (fun x => some x) recs o s = ((ucCnt recs o s : Nat) : Rat) :=
  ucCount_of_label _ recs o o s fun _ _ => Option.some_beq_some

def renamed (st : UcState) (g : String → String) : Table Rat :=
  { ucTable st with obs := st.obsIds.map g }

/-- the checks of `holdsUc` on the renamed table, for any labelling that is injective on the seeds -/
theorem uc_checks (recs : List UcRec) (st : UcState) (inv : UcInv st recs)
    (hq : ∀ r ∈ recs, isHS r = true → (sampleOf r.query).isSome = true)
    (label : String → Option String) (g : String → String)
    (hlab : ∀ o ∈ st.obsIds, label o = some (g o))
    (hinj : ∀ a ∈ st.obsIds, ∀ b ∈ st.obsIds, g a = g b → a = b) :
    allV [
      chk "uc_ids" (distinct (renamed st g).obs && distinct (renamed st g).samp &&
        (renamed st g).obs.all (fun o => recs.any (fun r => label r.seed == some o)) &&
        recs.all (fun r => (renamed st g).obs.any (fun o => label r.seed == some o)) &&
        (recs.filter isHS).all (fun r => (renamed st g).samp.any (isSampleOf r.query)) &&
        (renamed st g).samp.all (fun s => (recs.filter isHS).any (fun r => isSampleOf r.query s)) &&
        (renamed st g).wfb),
      chk "uc_cell" ((renamed st g).obs.all fun o => (renamed st g).samp.all fun s =>
        (renamed st g).cell? o s == some (ucCount label recs o s))] = none := by
  have hseed : ∀ r ∈ recs, r.seed ∈ st.obsIds := fun r hr => (inv.seeds r.seed).mpr ⟨r, hr, rfl⟩
  have hlabel : ∀ r ∈ recs, label r.seed = some (g r.seed) := fun r hr => hlab _ (hseed r hr)
  apply allV_pair
  · simp only [Bool.and_eq_true, List.all_eq_true, List.any_eq_true, beq_iff_eq]
    refine ⟨⟨⟨⟨⟨⟨?_, ?_⟩, ?_⟩, ?_⟩, ?_⟩, ?_⟩, ?_⟩
    · exact decide_eq_true (nodup_map_of_injOn g _ inv.nodupO hinj)
    · exact decide_eq_true inv.nodupS
    · intro o ho
      obtain ⟨o0, ho0, rfl⟩ := List.mem_map.mp ho
      obtain ⟨r, hr, rfl⟩ := (inv.seeds o0).mp ho0
      exact ⟨r, hr, hlabel r hr⟩
    · exact fun r hr => ⟨g r.seed, List.mem_map_of_mem (hseed r hr), hlabel r hr⟩
    · intro r hr
      rw [List.mem_filter] at hr
      obtain ⟨s, hs⟩ := Option.isSome_iff_exists.mp (hq r hr.1 hr.2)
      exact ⟨s, (inv.samples s).mpr ⟨r, hr.1, hr.2, hs⟩, (isSampleOf_iff _ _).mpr hs⟩
    · intro s hs
      obtain ⟨r, hr, hh, e⟩ := (inv.samples s).mp hs
      exact ⟨r, List.mem_filter.mpr ⟨hr, hh⟩, (isSampleOf_iff _ _).mpr e⟩
    · simp only [Table.wfb, renamed, List.length_map]
      exact ucTable_wfb st
  · simp only [List.all_eq_true, beq_iff_eq]
    intro o ho s hs
    obtain ⟨o0, ho0, rfl⟩ := List.mem_map.mp ho
    rw [ucCount_of_label label recs o0 (g o0) s, ← ucTable_cell st recs inv o0 ho0 s hs]
    · exact congrArg (Option.bind · _) (lookupBy_map_inj g st.obsIds _ o0 hinj ho0)
    · intro r hr
      rw [hlabel r hr, Option.some_beq_some, Bool.eq_iff_iff, beq_iff_eq, beq_iff_eq]
      exact ⟨hinj _ (hseed r hr) _ ho0, congrArg g⟩

theorem renamed_id (st : UcState) : renamed st (fun x => x) = ucTable st := by
  simp [renamed, ucTable]

theorem renameObs_ucTable (st : UcState) (m : List (String × String)) :
    renameObs (ucTable st) m =
      if (∀ o ∈ st.obsIds, (mapGet m o).isSome = true) ∧
          (st.obsIds.map (fun o => (mapGet m o).getD "")).Nodup
      then .ok (renamed st (fun o => (mapGet m o).getD "")) else .error .value := by
  unfold renameObs
  by_cases hall : ∀ o ∈ st.obsIds, (mapGet m o).isSome = true
  · rw [show (ucTable st).obs.mapM (mapGet m) = _ from mapM_option_some (mapGet m) st.obsIds hall]
    by_cases hnd : (st.obsIds.map (fun o => (mapGet m o).getD "")).Nodup
    · rw [if_pos ⟨hall, hnd⟩]
      exact if_neg (not_not_intro ((dedup_length_eq_iff _).mpr hnd))
    · rw [if_neg fun h => hnd h.2]
      exact if_pos fun h => hnd ((dedup_length_eq_iff _).mp h)
  · rw [show (ucTable st).obs.mapM (mapGet m) = _ from mapM_option_none (mapGet m) st.obsIds hall,
      if_neg fun h => hall h.1]

theorem uc_reject_of_error (res : Except Err (Table Rat)) (e : Err) (h : res = .error e) :
    chk "uc_reject" (noTable res) = none := by
  subst h; rfl

/-- **uc_model_holds.** The uc part of the property is true of the model on every document and every
fasta file (or none): a malformed H/S/L line, an H/S query label without underscore, a malformed
fasta header, a seed without a label or two seeds with the same label give no table; otherwise the
table has one row per distinct seed (under its label), one column per distinct sample, and the
numbers of H/S records as cells. -/
theorem uc_model_holds (lines : List (List String)) (fasta : Option (List String)) :
    holdsUc lines fasta (fromUc lines fasta) = none := by
  unfold holdsUc
  cases hrec : ucRecords lines with
  | error e =>
    exact uc_reject_of_error _ e (by simp only [fromUc, parseUc, hrec, bind, Except.bind])
  | ok recs =>
    simp only []
    by_cases hbad : (recs.any (fun r => isHS r && !r.query.toList.contains '_')) = true
    · rw [if_pos hbad]
      obtain ⟨r, hr, hc⟩ := List.any_eq_true.mp hbad
      simp only [Bool.and_eq_true, Bool.not_eq_true', List.contains_eq_mem, decide_eq_false_iff_not] at hc
      obtain ⟨e, he⟩ := ucFold_err recs {} ⟨r, hr, hc.1, sampleOf_none r.query hc.2⟩
      exact uc_reject_of_error _ e (by simp only [fromUc, parseUc, hrec, bind, Except.bind, he])
    · rw [if_neg hbad]
      have hq : ∀ r ∈ recs, isHS r = true → (sampleOf r.query).isSome = true := by
        intro r hr hh
        rw [sampleOf_isSome_iff]
        refine Decidable.by_contra fun hm => hbad (List.any_eq_true.mpr ⟨r, hr, ?_⟩)
        simp only [hh, List.contains_eq_mem, hm, decide_false, Bool.not_false, Bool.and_self]
      obtain ⟨st, hres, inv⟩ := parseUc_ok lines recs hrec hq
      cases fasta with
      | none =>
        have hfrom : fromUc lines none = .ok (ucTable st) := by
          simp only [fromUc, hres, bind, Except.bind, pure, Except.pure]
        simp only [Option.map_none, labelsOk_some, Bool.not_true, Bool.false_eq_true, if_false, hfrom]
        rw [← renamed_id st]
        exact uc_checks recs st inv hq (fun x => some x) (fun x => x) (fun _ _ => rfl) (fun _ _ _ _ e => e)
      | some fl =>
        simp only [Option.map_some]
        cases hm : fastaMap fl with
        | error e =>
          exact uc_reject_of_error _ e (by simp only [fromUc, hres, hm, bind, Except.bind])
        | ok m =>
          have hfrom : fromUc lines (some fl) = renameObs (ucTable st) m := by
            simp only [fromUc, hres, hm, bind, Except.bind]
          simp only [hfrom, renameObs_ucTable]
          by_cases hok : labelsOk (mapGet m) recs = true
          · obtain ⟨hall, hnd⟩ := (labelsOk_iff _ recs _ inv.nodupO inv.seeds).mp hok
            simp only [hok, Bool.not_true, Bool.false_eq_true, if_false, if_pos (And.intro hall hnd)]
            refine uc_checks recs st inv hq (mapGet m) _ (fun o ho => ?_) (inj_of_nodup_map _ _ hnd)
            obtain ⟨y, hy⟩ := Option.isSome_iff_exists.mp (hall o ho)
            rw [hy]; rfl
          · rw [if_neg fun h => hok ((labelsOk_iff _ recs _ inv.nodupO inv.seeds).mpr h)]
            rw [Bool.not_eq_true] at hok
            simp only [hok, Bool.not_false, if_true]
            rfl

/-! ### non-vacuity: concrete inputs meet the hypotheses, and the conclusions are not trivial -/

def demoGrid : Grid := [[1, 0, 2], [0, 3, 0]]
/-- triples with a repeated coordinate (1 + 2 = 3 at (1,1)) and an explicit zero, in no order -/
def demoTriples : Data := .listList [[0, 0, 1], [1, 1, 1], [0, 2, 2], [1, 1, 2], [0, 1, 0]]
def demoDict : Data := .dict [((0, 0), 1), ((0, 2), 2), ((1, 1), 3), ((1, 0), 0)]
def demoRowDicts : Data := .listDict [[((0, 0), 1), ((0, 2), 2)], [((0, 1), 3)]]
def demoColDicts : Data := .listDict [[((0, 0), 1)], [((1, 0), 3)], [((0, 0), 2)]]
def demoSparseRows : Data := .listSparse [⟨1, 3, [[1, 0, 2]]⟩, ⟨1, 3, [[0, 3, 0]]⟩]
def demoInput (d : Data) (dense : Bool := false) : Input :=
  { data := d, obs := ["O1", "O2"], samp := ["S1", "S2", "S3"],
    omd := some [.map [("k", "1")], .null], inputIsDense := dense }

example : encodes demoTriples false demoGrid 2 3 = true := by decide +kernel
example : encodes demoDict false demoGrid 2 3 = true := by decide +kernel
example : encodes demoRowDicts false demoGrid 2 3 = true := by decide +kernel
example : encodes demoColDicts false demoGrid 2 3 = true := by decide +kernel
example : encodes demoSparseRows false demoGrid 2 3 = true := by decide +kernel
example : encodes (.listList demoGrid) true demoGrid 2 3 = true := by decide +kernel
example : encodes (.arr 2 3 demoGrid) false demoGrid 2 3 = true := by decide +kernel
example : mdBad (demoInput demoDict).omd (demoInput demoDict).obs = false := by decide
/-- the produced table really carries the grid and the metadata -/
example : sameResult (construct (demoInput demoTriples)) (.ok (built (demoInput demoTriples) demoGrid)) = true := by
  decide +kernel
example : (built (demoInput demoTriples) demoGrid).cell? "O2" "S2" = some 3 := by decide +kernel
example : (built (demoInput demoTriples) demoGrid).mdOf? .obs "O1" = some [("k", "1")] := by decide +kernel
/-- duplicate ID, too few IDs, metadata too short, a non-mapping entry: all refused -/
example : isErr (construct { demoInput demoColDicts with obs := ["O1", "O1"] }) .tableException = true := by
  decide +kernel
example : isErr (construct { demoInput demoSparseRows with samp := ["S1", "S2"], omd := none }) .tableException = true := by
  decide +kernel
example : isErr (construct { demoInput demoDict with omd := some [.null] }) .tableException = true := by
  decide +kernel
example : isErr (construct { demoInput demoDict with smd := some [.null, .other, .null] }) .tableException = true := by
  decide +kernel
/-- the inputs on which the unrepaired constructor produced a table -/
example : isErr (construct { data := .listList [[1, 2], [0, 0]], obs := ["a"], samp := ["x", "y"], inputIsDense := true })
    .tableException = true := by decide +kernel
/-- an adjacency document with a repeated pair and a uc label with two underscores -/
example : (fromAdjacency [⟨["#OTU ID", "SampleID", "value"], none⟩, ⟨["a", "b", "1"], some 1⟩,
    ⟨["a", "c", "2"], some 2⟩, ⟨["d", "c", "3"], some 3⟩, ⟨["a", "b", "4"], some 4⟩]).toOption.bind
      (·.cell? "a" "b") = some 5 := by decide +kernel
example : sampleOf "f3_a_43" = some "f3_a" := by decide +kernel
example : (parseUc [["S", "0", "1", "*", "*", "*", "*", "*", "f2_1539", "*"],
    ["H", "0", "1", "9", "+", "0", "0", "1M", "f3_a_43 extra", "f2_1539"],
    ["H", "0", "1", "9", "+", "0", "0", "1M", "f3_a_44", "f2_1539"]]).toOption.bind
      (·.cell? "f2_1539" "f3_a") = some 2 := by decide +kernel

end Biom.C17
