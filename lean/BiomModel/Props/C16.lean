/-
  C16 — property theorems.  All sizes, all layouts (any index order inside a vector), all ID lists,
  all metadata, all histories of read accessors of any length, all export/query functions.
-/
import BiomModel.Lemmas.C16

namespace Biom.C16
open Biom

variable {α : Type}

/-! ### kernel: `_data_equality` is representation-free on layouts without stored zeros -/

/-- what `_data_equality` does in general (stored zeros allowed): it also compares the raw
stored-entry counts -/
theorem dataEq_general [Zero α] [DecidableEq α] (c₁ c₂ : CS α) (h₁ : c₁.WF) (h₂ : c₂.WF) :
    dataEq c₁ c₂ = true ↔
      (c₁.nMajor = c₂.nMajor ∧ c₁.nMinor = c₂.nMinor ∧ storedCount c₁ = storedCount c₂ ∧
        c₁.toDense = c₂.toDense) := by
  rw [dataEq_iff]
  exact and_congr_right fun hM => and_congr_right fun hm => and_congr_right fun _ =>
    neCount_eq_zero_iff c₁ c₂ h₁ h₂ hM hm

/-- For well-formed layouts without stored zeros — any index order inside the vectors —
`_data_equality` answers `True` exactly when shape and dense content coincide. -/
theorem dataEq_rep_free [Zero α] [DecidableEq α] (c₁ c₂ : CS α) (h₁ : c₁.WF) (h₂ : c₂.WF)
    (z₁ : c₁.NoStoredZeros) (z₂ : c₂.NoStoredZeros) :
    dataEq c₁ c₂ = true ↔
      (c₁.nMajor = c₂.nMajor ∧ c₁.nMinor = c₂.nMinor ∧ c₁.toDense = c₂.toDense) := by
  rw [dataEq_general c₁ c₂ h₁ h₂]
  -- equal content has equally many non-zero cells, which is all that is stored
  have hs : c₁.toDense = c₂.toDense → storedCount c₁ = storedCount c₂ := fun hd => by
    rw [storedCount_eq_nnzDense c₁ h₁ z₁, storedCount_eq_nnzDense c₂ h₂ z₂, hd]
  exact ⟨fun ⟨hM, hm, _, hd⟩ => ⟨hM, hm, hd⟩, fun ⟨hM, hm, hd⟩ => ⟨hM, hm, hs hd, hd⟩⟩

/-- non-empty matrices: the shape is part of the content -/
theorem dataEq_rep_free_nonempty [Zero α] [DecidableEq α] (c₁ c₂ : CS α) (h₁ : c₁.WF) (h₂ : c₂.WF)
    (z₁ : c₁.NoStoredZeros) (z₂ : c₂.NoStoredZeros) (hne : 0 < c₁.nMajor) :
    dataEq c₁ c₂ = true ↔ c₁.toDense = c₂.toDense := by
  rw [dataEq_rep_free c₁ c₂ h₁ h₂ z₁ z₂]
  refine ⟨fun h => h.2.2, fun h => ?_⟩
  have s₁ := CS.toDense_shape c₁
  have s₂ := CS.toDense_shape c₂
  have hM : c₁.nMajor = c₂.nMajor := by rw [← s₁.1, ← s₂.1, h]
  -- a common row has both widths
  obtain ⟨r, hr⟩ := List.exists_mem_of_length_pos (l := c₁.toDense) (by rw [s₁.1]; exact hne)
  exact ⟨hM, (s₁.2 r hr).symm.trans (s₂.2 r (h ▸ hr)), h⟩

/-- the original defect's matrix: `[[1,0],[0,2]]` with the zero of row 0 explicitly stored -/
def witnessStored : CS Int :=
  { nMajor := 2, nMinor := 2, indptr := [0, 2, 3], indices := [0, 1, 1], data := [1, 0, 2] }
def witnessCanon : CS Int :=
  { nMajor := 2, nMinor := 2, indptr := [0, 1, 2], indices := [0, 1], data := [1, 2] }

/-- the hypothesis `NoStoredZeros` is needed at kernel level: the two matrices are well-formed and have
the same dense content, yet `_data_equality` says "unequal" — and "equal" once `eliminate_zeros` has run -/
theorem dataEq_stored_zero_witness :
    witnessStored.wfb = true ∧ witnessCanon.wfb = true ∧
    witnessStored.toDense = witnessCanon.toDense ∧
    dataEq witnessStored witnessCanon = false ∧
    dataEq (eliminateZeros witnessStored) witnessCanon = true := by
  decide +kernel

/-! ### table level: `==` is content equality -/

theorem dataEq_iff_dense_of_reach [Zero α] [DecidableEq α] (r₁ r₂ : Rep α) (h₁ : Reach r₁) (h₂ : Reach r₂)
    (ho : r₁.obs = r₂.obs) (hs : r₁.samp = r₂.samp) :
    dataEq r₁.data r₂.data = true ↔ r₁.data.toDense = r₂.data.toDense := by
  rw [dataEq_rep_free _ _ h₁.wf h₂.wf h₁.nz h₂.nz]
  exact ⟨fun h => h.2.2,
    fun h => ⟨by rw [h₁.nObs, h₂.nObs, ho], by rw [h₁.nSamp, h₂.nSamp, hs], h⟩⟩

theorem tableEq_iff_components [Zero α] [DecidableEq α] (r₁ r₂ : Rep α) (h₁ : Reach r₁) (h₂ : Reach r₂) :
    tableEq r₁ r₂ = true ↔ (r₁.ttype = r₂.ttype ∧ r₁.obs = r₂.obs ∧ r₁.samp = r₂.samp ∧
      r₁.omd = r₂.omd ∧ r₁.smd = r₂.smd ∧ r₁.data.toDense = r₂.data.toDense) := by
  rw [tableEq_iff]
  exact and_congr_right fun _ => and_congr_right fun ho => and_congr_right fun hs =>
    and_congr_right fun _ => and_congr_right fun _ => dataEq_iff_dense_of_reach r₁ r₂ h₁ h₂ ho hs

/-- two tables compare equal exactly when they have the same type, the same IDs in the same order on
both axes, the same metadata on both axes and the same grid — whatever their layouts -/
theorem tableEq_iff_content [Zero α] [DecidableEq α] (r₁ r₂ : Rep α) (h₁ : Reach r₁) (h₂ : Reach r₂) :
    tableEq r₁ r₂ = true ↔ r₁.content = r₂.content := by
  rw [content_eq_iff]
  exact tableEq_iff_components r₁ r₂ h₁ h₂

theorem tableEq_eq_decide [Zero α] [DecidableEq α] (r₁ r₂ : Rep α) (h₁ : Reach r₁) (h₂ : Reach r₂) :
    tableEq r₁ r₂ = decide (r₁.content = r₂.content) :=
  Bool.eq_iff_iff.mpr ((tableEq_iff_content r₁ r₂ h₁ h₂).trans decide_eq_true_iff.symm)

/-- the result of `==` does not depend on which representations of the two tables are compared -/
theorem tableEq_rep_free [Zero α] [DecidableEq α] (r₁ r₁' r₂ r₂' : Rep α) (h₁ : Reach r₁) (h₂ : Reach r₂)
    (s₁ : Stable r₁ r₁') (s₂ : Stable r₂ r₂') : tableEq r₁' r₂' = tableEq r₁ r₂ := by
  rw [tableEq_eq_decide r₁' r₂' s₁.1 s₂.1, tableEq_eq_decide r₁ r₂ h₁ h₂, s₁.2, s₂.2]

/-- equality is reflexive, symmetric and transitive -/
theorem eq_equiv [Zero α] [DecidableEq α] :
    (∀ r : Rep α, Reach r → tableEq r r = true) ∧
    (∀ r s : Rep α, Reach r → Reach s → tableEq r s = tableEq s r) ∧
    (∀ r s t : Rep α, Reach r → Reach s → Reach t →
      tableEq r s = true → tableEq s t = true → tableEq r t = true) := by
  refine ⟨?_, ?_, ?_⟩
  · intro r h; exact (tableEq_iff_content r r h h).mpr rfl
  · intro r s hr hs
    rw [tableEq_eq_decide r s hr hs, tableEq_eq_decide s r hs hr]
    exact decide_eq_decide.mpr eq_comm
  · intro r s t hr hs ht h1 h2
    exact (tableEq_iff_content r t hr ht).mpr
      (((tableEq_iff_content r s hr hs).mp h1).trans ((tableEq_iff_content s t hs ht).mp h2))

/-- a copy equals its original, both ways round -/
theorem copy_eq [Zero α] [DecidableEq α] (r : Rep α) (h : Reach r) :
    tableEq r r.copy = true ∧ tableEq r.copy r = true ∧ r.copy.content = r.content :=
  ⟨(tableEq_iff_content r r h h).mpr rfl, (tableEq_iff_content r r h h).mpr rfl, rfl⟩

theorem tableEq_false_of_content_ne [Zero α] [DecidableEq α] (r₁ r₂ : Rep α) (h₁ : Reach r₁) (h₂ : Reach r₂)
    (hne : r₁.content ≠ r₂.content) : tableEq r₁ r₂ = false := by
  rw [tableEq_eq_decide r₁ r₂ h₁ h₂]; exact decide_eq_false hne

/-- a single difference — one cell value (looked up by IDs), one ID or the ID order on either axis,
one metadata entry (looked up by ID) on either axis, or the type — makes the tables unequal -/
theorem neq_single_difference [Zero α] [DecidableEq α] (r₁ r₂ : Rep α) (h₁ : Reach r₁) (h₂ : Reach r₂) :
    ((∃ o s, r₁.content.cell? o s ≠ r₂.content.cell? o s) → tableEq r₁ r₂ = false) ∧
    (r₁.obs ≠ r₂.obs → tableEq r₁ r₂ = false) ∧
    (r₁.samp ≠ r₂.samp → tableEq r₁ r₂ = false) ∧
    ((∃ ax id, r₁.content.mdOf? ax id ≠ r₂.content.mdOf? ax id) → tableEq r₁ r₂ = false) ∧
    (r₁.ttype ≠ r₂.ttype → tableEq r₁ r₂ = false) := by
  have key : ∀ P : Prop, (r₁.content = r₂.content → ¬ P) → P → tableEq r₁ r₂ = false := by
    intro P hP hp
    exact tableEq_false_of_content_ne r₁ r₂ h₁ h₂ (fun h => hP h hp)
  refine ⟨key _ ?_, key _ ?_, key _ ?_, key _ ?_, key _ ?_⟩
  · rintro h ⟨o, s, hne⟩; exact hne (by rw [h])
  · intro h hne; exact hne (congrArg Table.obs h)
  · intro h hne; exact hne (congrArg Table.samp h)
  · rintro h ⟨ax, id, hne⟩; exact hne (by rw [h])
  · intro h hne; exact hne (congrArg Table.ttype h)

/-- the constructor yields a reachable table whose content is the input's content -/
theorem construct_reach [Zero α] [DecidableEq α] (ttype : Option String) (obs samp : List Id)
    (omd smd : Option (List (Option Md))) (input : CS α) (fmt : Fmt) (h : input.WF)
    (hM : input.nMajor = obs.length) (hm : input.nMinor = samp.length) :
    Reach (construct ttype obs samp omd smd input fmt) ∧
    (construct ttype obs samp omd smd input fmt).content =
      { obs := obs, samp := samp, rows := input.toDense, omd := normMd omd, smd := normMd smd,
        ttype := ttype } := by
  refine ⟨⟨eliminateZeros_wf _ h, eliminateZeros_noStoredZeros _, ?_, ?_⟩, ?_⟩
  · exact (eliminateZeros_nMajor _).trans hM
  · exact (eliminateZeros_nMinor _).trans hm
  · simp only [construct, Rep.content, eliminateZeros_toDense _ h]

/-- two constructions from any two well-formed inputs (stored zeros, any index order) compare equal
exactly when the inputs denote the same grid and IDs, normalised metadata and type coincide -/
theorem construct_eq_iff [Zero α] [DecidableEq α] (ty₁ ty₂ : Option String) (obs₁ obs₂ samp₁ samp₂ : List Id)
    (omd₁ omd₂ smd₁ smd₂ : Option (List (Option Md))) (c₁ c₂ : CS α) (f₁ f₂ : Fmt) (h₁ : c₁.WF) (h₂ : c₂.WF)
    (hM₁ : c₁.nMajor = obs₁.length) (hm₁ : c₁.nMinor = samp₁.length)
    (hM₂ : c₂.nMajor = obs₂.length) (hm₂ : c₂.nMinor = samp₂.length) :
    tableEq (construct ty₁ obs₁ samp₁ omd₁ smd₁ c₁ f₁) (construct ty₂ obs₂ samp₂ omd₂ smd₂ c₂ f₂) = true ↔
      (ty₁ = ty₂ ∧ obs₁ = obs₂ ∧ samp₁ = samp₂ ∧ normMd omd₁ = normMd omd₂ ∧
        normMd smd₁ = normMd smd₂ ∧ c₁.toDense = c₂.toDense) := by
  have r₁ := construct_reach ty₁ obs₁ samp₁ omd₁ smd₁ c₁ f₁ h₁ hM₁ hm₁
  have r₂ := construct_reach ty₂ obs₂ samp₂ omd₂ smd₂ c₂ f₂ h₂ hM₂ hm₂
  rw [tableEq_iff_components _ _ r₁.1 r₂.1]
  simp only [construct, eliminateZeros_toDense _ h₁, eliminateZeros_toDense _ h₂]

/-! ### `descriptive_equality`, checkpoints, histories -/

/-- `descriptive_equality` says "equal" exactly for equal content and otherwise names a component
that really differs -/
theorem describe_ok [Zero α] [DecidableEq α] (r₁ r₂ : Rep α) (h₁ : Reach r₁) (h₂ : Reach r₂) :
    descOk r₁.content r₂.content (describe r₁ r₂).name = true := by
  unfold describe
  by_cases ht : r₁.ttype = r₂.ttype
  · by_cases ho : r₁.obs = r₂.obs
    · by_cases hs : r₁.samp = r₂.samp
      · by_cases hom : r₁.omd = r₂.omd
        · by_cases hsm : r₁.smd = r₂.smd
          · have hd := dataEq_iff_dense_of_reach r₁ r₂ h₁ h₂ ho hs
            by_cases hde : dataEq r₁.data r₂.data = true
            · have hc : r₁.content = r₂.content :=
                (content_eq_iff r₁ r₂).mpr ⟨ht, ho, hs, hom, hsm, hd.mp hde⟩
              simp [ht, ho, hs, hom, hsm, hde, Desc.name, descOk, hc]
            · have hne : ¬ r₁.data.toDense = r₂.data.toDense := fun h => hde (hd.mpr h)
              simp [ht, ho, hs, hom, hsm, hde, Desc.name, descOk, Rep.content, hne]
          · simp [ht, ho, hs, hom, hsm, Desc.name, descOk, Rep.content]
        · simp [ht, ho, hs, hom, Desc.name, descOk, Rep.content]
      · simp [ht, ho, hs, Desc.name, descOk, Rep.content]
    · simp [ht, ho, Desc.name, descOk, Rep.content]
  · simp [ht, Desc.name, descOk, Rep.content]

/-- `descriptive_equality` and `==` agree -/
theorem describe_equal_iff_eq [Zero α] [DecidableEq α] (r₁ r₂ : Rep α) :
    describe r₁ r₂ = .equal ↔ tableEq r₁ r₂ = true := by
  rw [describe_equal_iff, tableEq_iff]

theorem compare_ok [Zero α] [DecidableEq α] {conv : CS α → CS α} (hc : LayoutConv conv) {a b x y : Rep α}
    (sx : Stable a x) (sy : Stable b y) :
    tableEq x y = decide (a.content = b.content) ∧
    descOk a.content b.content (describe x y).name = true ∧ Stable a (eqEffect conv x y) := by
  refine ⟨?_, ?_, sx.trans (eqEffect_stable conv hc x y sx.1)⟩
  · rw [tableEq_eq_decide x y sx.1 sy.1, sx.2, sy.2]
  · have := describe_ok x y sx.1 sy.1
    rwa [sx.2, sy.2] at this

theorem checkpoint_ok [Zero α] [DecidableEq α] {conv : CS α → CS α} (hc : LayoutConv conv)
    {a b x y : Rep α} (sx : Stable a x) (sy : Stable b y) :
    checkOk a.content b.content (checkpoint conv x y).1 = true ∧
    Stable a (checkpoint conv x y).2.1 ∧ Stable b (checkpoint conv x y).2.2 := by
  -- the six comparisons in the order of `checkpoint`; each hands its receiver on to the next
  have h1 := compare_ok hc sx sy
  have h2 := compare_ok hc sy h1.2.2
  have h3 := compare_ok hc h1.2.2 h2.2.2
  have h4 := compare_ok hc h2.2.2 h3.2.2
  have h5 := compare_ok hc h3.2.2 h4.2.2
  have h6 := compare_ok hc h4.2.2 h5.2.2
  have hsym : decide (b.content = a.content) = decide (a.content = b.content) :=
    decide_eq_decide.mpr eq_comm
  simp only [checkpoint, checkOk, h1.1, h2.1, h3.1, h4.1, hsym, h5.2.1, h6.2.1, beq_self_eq_true,
    Bool.and_self, true_and]
  exact ⟨h5.2.2, h6.2.2⟩

theorem applyStep_stable [Zero α] [DecidableEq α] {conv : CS α → CS α} (hc : LayoutConv conv)
    (s : Step) {a b x y : Rep α} (sx : Stable a x) (sy : Stable b y) :
    Stable a (applyStep conv s x y).1 ∧ Stable b (applyStep conv s x y).2 := by
  unfold applyStep
  split
  · exact ⟨sx, sy.trans (acc_apply_stable conv hc _ y sy.1)⟩
  · exact ⟨sx.trans (acc_apply_stable conv hc _ x sx.1), sy⟩

theorem runChecks_ok [Zero α] [DecidableEq α] {conv : CS α → CS α} (hc : LayoutConv conv)
    (steps : List Step) {a b x y : Rep α} (sx : Stable a x) (sy : Stable b y) :
    (runChecks conv steps x y).1.all (checkOk a.content b.content) = true ∧
    (runChecks conv steps x y).1.isEmpty = false ∧
    Stable a (runChecks conv steps x y).2.1 ∧ Stable b (runChecks conv steps x y).2.2 := by
  induction steps generalizing x y with
  | nil =>
    have h := checkpoint_ok hc sx sy
    simp only [runChecks, List.all_cons, List.all_nil, Bool.and_true]
    exact ⟨h.1, rfl, h.2⟩
  | cons s ss ih =>
    have h := checkpoint_ok hc sx sy
    have hs := applyStep_stable hc s h.2.1 h.2.2
    have hi := ih hs.1 hs.2
    simp only [runChecks, List.all_cons, Bool.and_eq_true]
    exact ⟨⟨h.1, hi.1⟩, rfl, hi.2.2⟩

/-- "never on which read-only accessors were called earlier": after any history the operands have
the content they started with and compare as they did at the start -/
theorem history_irrelevant [Zero α] [DecidableEq α] (conv : CS α → CS α) (hc : LayoutConv conv)
    (steps : List Step) (a b : Rep α) (ha : Reach a) (hb : Reach b) :
    tableEq (runChecks conv steps a b).2.1 (runChecks conv steps a b).2.2 = tableEq a b ∧
    tableEq (runChecks conv steps a b).2.2 (runChecks conv steps a b).2.1 = tableEq b a ∧
    (runChecks conv steps a b).2.1.content = a.content ∧
    (runChecks conv steps a b).2.2.content = b.content := by
  have h := runChecks_ok hc steps (Stable.refl a ha) (Stable.refl b hb)
  exact ⟨tableEq_rep_free a _ b _ ha hb h.2.2.1 h.2.2.2, tableEq_rep_free b _ a _ hb ha h.2.2.2 h.2.2.1,
    h.2.2.1.2, h.2.2.2.2⟩

/-! ### the declarative predicates hold of the model -/

/-- exports and queries are functions of the content: equal tables export and answer the same -/
theorem eq_exports_equal [Zero α] [DecidableEq α] {β : Type} (f : Table α → β) (r₁ r₂ : Rep α)
    (h₁ : Reach r₁) (h₂ : Reach r₂) (heq : tableEq r₁ r₂ = true) : f r₁.content = f r₂.content := by
  rw [(tableEq_iff_content r₁ r₂ h₁ h₂).mp heq]

/-- per-cell and per-ID queries answer from the content, by ID -/
theorem modelCells_ok [DecidableEq α] (t : Table α) : cellsOk t (modelCells t) = true := by
  unfold cellsOk modelCells
  rw [List.all_eq_true]
  intro c hc
  simp only [List.mem_flatMap, List.mem_filterMap, Option.map_eq_some_iff] at hc
  obtain ⟨o, _, s, _, v, hv, rfl⟩ := hc
  simpa using hv

theorem modelVecs_ok [DecidableEq α] (t : Table α) : vecsOk t (modelVecs t) = true := by
  unfold vecsOk modelVecs
  rw [List.all_eq_true]
  intro c hc
  simp only [List.mem_append, List.mem_filterMap, Option.map_eq_some_iff] at hc
  rcases hc with ⟨o, _, v, hv, rfl⟩ | ⟨o, _, v, hv, rfl⟩ <;> simpa using hv

/-- the shape of the export and query clauses of `holdsPair` -/
theorem all_agree_of_eq {β γ : Type} [DecidableEq β] [DecidableEq γ] (fs : List (String × (β → γ)))
    (x y : β) :
    (!decide (x = y) ||
      (fs.map (fun e => (e.1, e.2 x, e.2 y))).all (fun e => decide (e.2.1 = e.2.2))) = true := by
  by_cases h : x = y
  · subst h; simp
  · simp [h]

/-- pairs: for all reachable operands (equal or not), every history, every conversion honouring the
scipy contract, every family of export and query functions -/
theorem model_holds [Zero α] [DecidableEq α] (conv : CS α → CS α) (hc : LayoutConv conv)
    (exps : List (String × (Table α → Table α))) (qs : List (String × (Table α → String)))
    (steps : List Step) (a b : Rep α) (ha : Reach a) (hb : Reach b) :
    holdsPair (modelPair conv exps qs steps a b) = none := by
  have h := runChecks_ok hc steps (Stable.refl a ha) (Stable.refl b hb)
  simp only [holdsPair, modelPair, h.1, h.2.1, h.2.2.1.2, h.2.2.2.2, all_agree_of_eq, decide_true,
    modelCells_ok, modelVecs_ok, Bool.not_false,
    Bool.and_self, Codec.chk, Codec.allV, List.foldl, Codec.Verdict.and, if_true]

theorem decide_eq_trans {β : Type} [DecidableEq β] (x y z : β) :
    (!(decide (x = y) && decide (y = z)) || decide (x = z)) = true := by
  by_cases h : x = y
  · subst h; rw [decide_eq_true rfl]; cases decide (x = z) <;> rfl
  · rw [decide_eq_false h]; rfl

theorem holdsFamily_of_eq_decide [DecidableEq α] (o : FamilyObs α)
    (hshape : (o.eqs.length == o.ts.length && o.eqs.all (·.length == o.ts.length)) = true)
    (key : ∀ i ∈ List.range o.ts.length, ∀ j ∈ List.range o.ts.length,
      o.eq i j = decide (o.ts[i]? = o.ts[j]?)) :
    holdsFamily o = none := by
  refine allV_none _ ?_
  simp only [List.forall_mem_cons, chk_eq_none_iff]
  refine ⟨hshape, ?_, ?_, ?_, ?_, nofun⟩
  · exact List.all_eq_true.mpr fun i hi => by rw [key i hi i hi]; exact decide_eq_true rfl
  · exact List.all_eq_true.mpr fun i hi => List.all_eq_true.mpr fun j hj => by
      rw [key i hi j hj, key j hj i hi, beq_iff_eq]; exact decide_eq_decide.mpr eq_comm
  · exact List.all_eq_true.mpr fun i hi => List.all_eq_true.mpr fun j hj =>
      List.all_eq_true.mpr fun k hk => by
        rw [key i hi j hj, key j hj k hk, key i hi k hk]
        exact decide_eq_trans _ _ _
  · exact List.all_eq_true.mpr fun i hi => List.all_eq_true.mpr fun j hj =>
      beq_iff_eq.mpr (key i hi j hj)

theorem family_eq_entry [Zero α] [DecidableEq α] (rs : List (Rep α)) (i j : Nat)
    (hi : i < rs.length) (hj : j < rs.length) :
    (modelFamily rs).eq i j = tableEq rs[i] rs[j] := by
  simp [FamilyObs.eq, modelFamily, List.getD, hi, hj]

/-- families of any size: the observed matrix of `==` results is reflexive, symmetric, transitive
and decided by content -/
theorem model_holds_family [Zero α] [DecidableEq α] (rs : List (Rep α)) (h : ∀ r ∈ rs, Reach r) :
    holdsFamily (modelFamily rs) = none := by
  have hlen : (modelFamily rs).ts.length = rs.length := List.length_map _
  apply holdsFamily_of_eq_decide
  · simp [modelFamily]
  · intro i hi j hj
    rw [hlen, List.mem_range] at hi hj
    rw [family_eq_entry rs i j hi hj,
      tableEq_eq_decide _ _ (h _ (List.getElem_mem hi)) (h _ (List.getElem_mem hj))]
    simp [modelFamily, hi, hj]

/-- kernel: on layouts without stored zeros the answer is content equality; with stored zeros the
predicate demands nothing (such matrices are not reachable through the constructor) -/
theorem model_holds_kernel [Zero α] [DecidableEq α] (c₁ c₂ : CS α) (h₁ : c₁.WF) (h₂ : c₂.WF) :
    holdsKernel (modelKernel c₁ c₂) = none := by
  unfold holdsKernel modelKernel
  rw [chk_eq_none_iff]
  cases z : noStoredZerosB c₁ && noStoredZerosB c₂ with
  | false => rfl
  | true =>
    rw [Bool.and_eq_true] at z
    have hd : dataEq c₁ c₂ = decide ((c₁.nMajor, c₁.nMinor) = (c₂.nMajor, c₂.nMinor) ∧
        c₁.toDense = c₂.toDense) :=
      Bool.eq_iff_iff.mpr ((dataEq_rep_free c₁ c₂ h₁ h₂ ((noStoredZerosB_iff c₁).mp z.1)
        ((noStoredZerosB_iff c₂).mp z.2)).trans
        (by rw [decide_eq_true_iff, Prod.mk.injEq, and_assoc]))
    simp only [hd, beq_self_eq_true, Bool.or_true]

/-! ### non-vacuity -/

/-- the original defect's operands: sparse input with one explicitly stored zero, reversed index
order in row 0, against the canonical layout; plus metadata given as `None`/`{}` entries -/
def demoA : Rep Int :=
  construct (some "OTU table") ["o1", "o2"] ["s1", "s2"] (some [none, some []]) none
    { nMajor := 2, nMinor := 2, indptr := [0, 2, 3], indices := [1, 0, 1], data := [0, 1, 2] }
def demoB : Rep Int :=
  construct (some "OTU table") ["o1", "o2"] ["s1", "s2"] none none witnessCanon
def demoC : Rep Int :=
  construct (some "OTU table") ["o1", "o2"] ["s1", "s2"] none none
    { nMajor := 2, nMinor := 2, indptr := [0, 1, 2], indices := [0, 1], data := [1, 3] }

/-- unsorted indices survive the constructor (no zero to drop) and do not matter -/
def demoD : Rep Int :=
  construct none ["o1", "o2"] ["s1", "s2"] none none
    { nMajor := 2, nMinor := 2, indptr := [0, 2, 3], indices := [1, 0, 1], data := [5, 1, 2] }
def demoE : Rep Int :=
  construct none ["o1", "o2"] ["s1", "s2"] none none
    { nMajor := 2, nMinor := 2, indptr := [0, 2, 3], indices := [0, 1, 1], data := [1, 5, 2] }
example : demoD.data.indices = [1, 0, 1] ∧ demoE.data.indices = [0, 1, 1] ∧
    tableEq demoD demoE = true ∧ tableEq demoE demoD = true := by decide +kernel

theorem demo_reach : Reach demoA ∧ Reach demoB ∧ Reach demoC :=
  ⟨(construct_reach _ _ _ _ _ _ _ ((CS.wfb_iff _).mp (by decide +kernel)) rfl rfl).1,
   (construct_reach _ _ _ _ _ _ _ ((CS.wfb_iff _).mp (by decide +kernel)) rfl rfl).1,
   (construct_reach _ _ _ _ _ _ _ ((CS.wfb_iff _).mp (by decide +kernel)) rfl rfl).1⟩

example : Reach demoA := demo_reach.1
example : Reach demoB := demo_reach.2.1
example : demoA.data.indices = [0, 1] ∧ demoA.content.rows = [[1, 0], [0, 2]] := by decide +kernel
example : tableEq demoA demoB = true ∧ tableEq demoB demoA = true ∧ tableEq demoA demoC = false := by decide +kernel
example : (runChecks id [(false, .vecSamp), (true, .nnz), (false, .plain)] demoA demoB).1.length = 4 := by decide +kernel
example : (runChecks id [(false, .vecSamp)] demoA demoB).2.1.fmt = .csr ∧
    (Acc.apply id .vecSamp demoA).fmt = .csc := by decide +kernel
example : holdsPair (modelPair id [("tsv", fun t => t)] [("shape", fun t => toString t.obs.length)]
    [(false, .vecSamp), (true, .nnz)] demoA demoC) = none :=
  model_holds id layoutConv_id _ _ _ _ _ demo_reach.1 demo_reach.2.2
example : describe demoA demoC = .data := by decide +kernel
example : holdsFamily (modelFamily [demoA, demoB, demoC]) = none :=
  model_holds_family _ (by
    simp only [List.mem_cons, List.mem_nil_iff, or_false, forall_eq_or_imp, forall_eq]
    exact demo_reach)
/-- the predicates are not trivially true: a wrong `==` result, a changed content or diverging
exports are refused -/
example : holdsPair ({ modelPair id [] [] [] demoA demoB with
    checks := [{ eqAB := false, eqBA := true, neAB := false, neBA := false, descAB := "equal", descBA := "equal" }] }) =
    some "eq-iff-content" := by decide +kernel
example : holdsPair ({ modelPair id [] [] [] demoA demoB with exports := [("tsv", demoA.content, demoC.content)] }) =
    some "exports-of-equal-tables-differ" := by decide +kernel
example : holdsPair ({ modelPair id [] [] [] demoA demoB with cellsA := [("o2", "s2", 0)] }) =
    some "cell-query-differs-from-content" := by decide +kernel
example : (modelPair id [] [] [] demoA demoB).cellsA.length = 4 ∧
    (modelPair id [] [] [] demoA demoB).vecsB.length = 4 := by decide +kernel
example : holdsFamily { ts := [demoA.content, demoB.content], eqs := [[true, false], [true, true]] } =
    some "symmetric" := by decide +kernel
example : holdsKernel (modelKernel witnessStored witnessCanon) = none ∧
    holdsKernel { modelKernel witnessCanon witnessCanon with result := false } = some "data-eq-iff-dense" := by
  decide +kernel

end Biom.C16
