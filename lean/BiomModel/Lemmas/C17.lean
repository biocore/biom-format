/-
  C17 — lemmas.  The scipy contract `cooDense` through cell sums; every accepted form of the data
  decodes to the grid it describes (`toSparse_of_encodes`); the constructor after `_to_sparse` as one
  equation (`finish_nonempty`) and its accept / reject corollaries; the sorted ID sets and cell sums of
  `from_adjacency`; the invariant `UcInv` of the `parse_uc` fold and the renaming of its seeds.
-/
import BiomModel.C17
import BiomModel.Lemmas.Layer

namespace Biom.C17

/-! ### grids -/

theorem gridIs_iff (D : Grid) (n m : Nat) :
    gridIs D n m = true ↔ D.length = n ∧ ∀ r ∈ D, r.length = m := by
  simp only [gridIs, Bool.and_eq_true, beq_iff_eq, List.all_eq_true]

theorem tabulate_length (n m : Nat) (f : Nat → Nat → Rat) : (tabulate n m f).length = n := by
  simp [tabulate]

theorem gridIs_tabulate (n m : Nat) (f : Nat → Nat → Rat) : gridIs (tabulate n m f) n m = true := by
  rw [gridIs_iff]
  refine ⟨tabulate_length n m f, ?_⟩
  intro r hr
  simp only [tabulate, List.mem_map] at hr
  obtain ⟨i, _, rfl⟩ := hr
  simp

theorem all_length (D : Grid) (n m : Nat) (hD : gridIs D n m = true) :
    D.all (fun r => r.length == m) = true := by
  rw [gridIs_iff] at hD
  simpa only [List.all_eq_true, beq_iff_eq] using hD.2

theorem headD_length (D : Grid) (n m : Nat) (hD : gridIs D n m = true) (hn : 1 ≤ n) :
    (D.headD []).length = m := by
  rw [gridIs_iff] at hD
  cases D with
  | nil => exact absurd hD.1 (Nat.ne_of_lt hn)
  | cons r rs => exact hD.2 r (List.mem_cons_self)

theorem cellD_tabulate (n m : Nat) (f : Nat → Nat → Rat) (i j : Nat) (hi : i < n) (hj : j < m) :
    cellD (tabulate n m f) i j = f i j := by
  simp [cellD, tabulate, List.getD_eq_getElem?_getD, hi, hj]

theorem grid_ext (A B : Grid) (n m : Nat) (hA : gridIs A n m = true) (hB : gridIs B n m = true)
    (h : ∀ i j, i < n → j < m → cellD A i j = cellD B i j) : A = B := by
  rw [gridIs_iff] at hA hB
  apply List.ext_getElem (by rw [hA.1, hB.1])
  intro i h1 h2
  have hra : (A[i]).length = m := hA.2 _ (List.getElem_mem h1)
  have hrb : (B[i]).length = m := hB.2 _ (List.getElem_mem h2)
  apply List.ext_getElem (by rw [hra, hrb])
  intro j g1 g2
  have := h i j (by rw [← hA.1]; exact h1) (by rw [← hra]; exact g1)
  simpa [cellD, List.getD_eq_getElem?_getD, h1, h2, g1, g2] using this

theorem tabulate_eq (D : Grid) (n m : Nat) (f : Nat → Nat → Rat) (hD : gridIs D n m = true)
    (h : ∀ i j, i < n → j < m → f i j = cellD D i j) : tabulate n m f = D := by
  apply grid_ext _ _ n m (gridIs_tabulate n m f) hD
  intro i j hi hj
  rw [cellD_tabulate n m f i j hi hj, h i j hi hj]

theorem allCells_iff (n m : Nat) (p : Nat → Nat → Bool) :
    allCells n m p = true ↔ ∀ i j, i < n → j < m → p i j = true := by
  simp only [allCells, List.all_eq_true, List.mem_range]
  constructor
  · intro h i j hi hj; exact h i hi j hj
  · intro h i hi j hj; exact h i j hi hj

/-! ### sums -/

theorem cellVals_append (a b : List Triple) (i j : Nat) :
    cellVals (a ++ b) i j = cellVals a i j ++ cellVals b i j := by
  simp [cellVals]

theorem cellSum_append (a b : List Triple) (i j : Nat) :
    cellSum (a ++ b) i j = cellSum a i j + cellSum b i j := by
  simp [cellSum, cellVals_append, sumL_append]

theorem cellSum_nil (i j : Nat) : cellSum [] i j = 0 := by
  simp [cellSum, cellVals, sumL]

theorem cellSum_cons (t : Triple) (ts : List Triple) (i j : Nat) :
    cellSum (t :: ts) i j = (if t.1 = i ∧ t.2.1 = j then t.2.2 + cellSum ts i j else cellSum ts i j) := by
  have hb : (t.1 == i && t.2.1 == j) = true ↔ t.1 = i ∧ t.2.1 = j := by
    rw [Bool.and_eq_true, beq_iff_eq, beq_iff_eq]
  rw [cellSum, cellVals, List.filter_cons]
  by_cases h : t.1 = i ∧ t.2.1 = j
  · rw [if_pos (hb.mpr h), if_pos h]; rfl
  · rw [if_neg (mt hb.mp h), if_neg h]; rfl

theorem cellSum_eq_zero (ts : List Triple) (i j : Nat) (h : ∀ t ∈ ts, ¬ (t.1 = i ∧ t.2.1 = j)) :
    cellSum ts i j = 0 := by
  induction ts with
  | nil => exact cellSum_nil i j
  | cons t ts ih =>
    rw [cellSum_cons, if_neg (h t (List.mem_cons_self))]
    exact ih (fun t' ht' => h t' (List.mem_cons_of_mem _ ht'))

theorem cellSum_map {α : Type} (l : List α) (f : α → Triple) (p : α → Bool) (i j : Nat)
    (h : ∀ a ∈ l, p a = true ↔ (f a).1 = i ∧ (f a).2.1 = j) :
    cellSum (l.map f) i j = sumL ((l.filter p).map (fun a => (f a).2.2)) := by
  have hp : l.filter p = l.filter (fun a => (f a).1 == i && (f a).2.1 == j) :=
    List.filter_congr fun a ha => by
      rw [Bool.eq_iff_iff, h a ha, Bool.and_eq_true, beq_iff_eq, beq_iff_eq]
  rw [hp, cellSum, cellVals, List.filter_map, List.map_map]
  rfl

theorem inRange_iff (n m : Nat) (ts : List Triple) :
    inRange n m ts = true ↔ ∀ t ∈ ts, t.1 < n ∧ t.2.1 < m := by
  simp only [inRange, List.all_eq_true, Bool.and_eq_true, decide_eq_true_eq, Prod.forall]

theorem inRange_append (n m : Nat) (a b : List Triple) :
    inRange n m (a ++ b) = (inRange n m a && inRange n m b) := by
  simp [inRange, List.all_append]

theorem cooDense_eq (n m : Nat) (ts : List Triple) (D : Grid) (hD : gridIs D n m = true)
    (hr : inRange n m ts = true) (hc : ∀ i j, i < n → j < m → cellSum ts i j = cellD D i j) :
    cooDense n m ts = .ok ⟨n, m, D⟩ := by
  simp only [cooDense, hr, if_true]
  rw [tabulate_eq D n m _ hD hc]

/-! ### maxima -/

theorem le_maxL (xs : List Nat) (x : Nat) (h : x ∈ xs) : x ≤ maxL xs := by
  induction xs with
  | nil => cases h
  | cons y ys ih =>
    simp only [maxL, List.foldr_cons]
    rcases List.mem_cons.mp h with rfl | h'
    · exact Nat.le_max_left _ _
    · exact Nat.le_trans (ih h') (Nat.le_max_right _ _)

theorem maxL_le (xs : List Nat) (k : Nat) (h : ∀ x ∈ xs, x ≤ k) : maxL xs ≤ k := by
  induction xs with
  | nil => simp [maxL]
  | cons y ys ih =>
    simp only [maxL, List.foldr_cons]
    exact Nat.max_le.mpr ⟨h y (List.mem_cons_self), ih (fun x hx => h x (List.mem_cons_of_mem _ hx))⟩

theorem maxL_eq (xs : List Nat) (k : Nat) (h : ∀ x ∈ xs, x ≤ k) (hk : k ∈ xs) : maxL xs = k :=
  Nat.le_antisymm (maxL_le xs k h) (le_maxL xs k hk)

theorem maxL_map_zero {α : Type} (f : α → Nat) (l : List α) (h : ∀ a ∈ l, f a = 0) : maxL (l.map f) = 0 :=
  Nat.le_antisymm (maxL_le _ 0 fun x hx => by
    obtain ⟨a, ha, rfl⟩ := List.mem_map.mp hx; exact Nat.le_of_eq (h a ha)) (Nat.zero_le _)

theorem maxL_map_last {α : Type} (f : α → Nat) (l : List α) (b : Nat) (h : ∀ a ∈ l, f a < b)
    (hl : ∃ a ∈ l, f a + 1 = b) : maxL (l.map f) + 1 = b := by
  obtain ⟨a, ha, hb⟩ := hl
  rw [maxL_eq (l.map f) (f a) (fun x hx => ?_) (List.mem_map_of_mem ha), hb]
  obtain ⟨a', ha', rfl⟩ := List.mem_map.mp hx
  exact Nat.le_of_lt_succ (show f a' < f a + 1 from hb ▸ h a' ha')

/-! ### dense nested lists as coordinate triples -/

theorem sub_eq_succ {x k : Nat} (h : k < x) : x - k = (x - (k + 1)) + 1 := by
  rw [Nat.sub_add_eq, Nat.sub_add_cancel (Nat.sub_pos_of_lt h)]

theorem lt_add_succ_of_lt {a k l : Nat} (h : a < k + 1 + l) : a < k + (l + 1) := by
  rw [Nat.add_comm l 1, ← Nat.add_assoc]; exact h

theorem rowTriples_cellSum (i : Nat) (vs : List Rat) (j0 i' j' : Nat) :
    cellSum (rowTriples i j0 vs) i' j' = if i = i' ∧ j0 ≤ j' then vs.getD (j' - j0) 0 else 0 := by
  induction vs generalizing j0 with
  | nil => simp only [rowTriples, cellSum_nil, List.getD_nil, ite_self]
  | cons v vs ih =>
    -- a zero is not emitted, and adds nothing
    have hstep : cellSum (rowTriples i j0 (v :: vs)) i' j' =
        (if i = i' ∧ j0 = j' then v else 0) + cellSum (rowTriples i (j0 + 1) vs) i' j' := by
      rw [rowTriples]
      split
      · rename_i hv; rw [hv, ite_self, Rat.zero_add]
      · rw [cellSum_cons]; split
        · rfl
        · exact (Rat.zero_add _).symm
    rw [hstep, ih]
    by_cases hi : i = i'
    · rcases Nat.lt_trichotomy j' j0 with h | h | h
      · rw [if_neg fun e => Nat.ne_of_gt h e.2, if_neg fun e => Nat.not_le_of_gt (Nat.lt_succ_of_lt h) e.2,
          if_neg fun e => Nat.not_le_of_gt h e.2]
        exact Rat.add_zero 0
      · subst h
        rw [if_pos ⟨hi, rfl⟩, if_neg fun e => Nat.not_succ_le_self _ e.2, if_pos ⟨hi, Nat.le_refl _⟩, Nat.sub_self]
        exact Rat.add_zero v
      · rw [if_neg fun e => Nat.ne_of_lt h e.2, if_pos ⟨hi, h⟩, if_pos ⟨hi, Nat.le_of_lt h⟩,
          sub_eq_succ h, List.getD_cons_succ]
        exact Rat.zero_add _
    · rw [if_neg fun h => hi h.1, if_neg fun h => hi h.1, if_neg fun h => hi h.1]; exact Rat.add_zero 0

theorem gridTriples_cellSum (D : Grid) (i0 i' j' : Nat) :
    cellSum (gridTriples i0 D) i' j' = if i0 ≤ i' then cellD D (i' - i0) j' else 0 := by
  induction D generalizing i0 with
  | nil => simp only [gridTriples, cellSum_nil, cellD, List.getD_nil, ite_self]
  | cons r rs ih =>
    rw [gridTriples, cellSum_append, rowTriples_cellSum, ih]
    rcases Nat.lt_trichotomy i' i0 with h | h | h
    · rw [if_neg fun e => Nat.ne_of_gt h e.1, if_neg (Nat.not_le_of_gt (Nat.lt_succ_of_lt h)),
        if_neg (Nat.not_le_of_gt h)]
      exact Rat.add_zero 0
    · subst h
      rw [if_pos ⟨rfl, Nat.zero_le _⟩, if_neg (Nat.not_succ_le_self _), if_pos (Nat.le_refl _), Nat.sub_self,
        Nat.sub_zero]
      exact Rat.add_zero _
    · rw [if_neg fun e => Nat.ne_of_lt h e.1, if_pos (show i0 + 1 ≤ i' from h), if_pos (Nat.le_of_lt h),
        sub_eq_succ h]
      exact Rat.zero_add _

theorem rowTriples_range (i : Nat) (vs : List Rat) (j0 : Nat) :
    ∀ t ∈ rowTriples i j0 vs, t.1 = i ∧ j0 ≤ t.2.1 ∧ t.2.1 < j0 + vs.length := by
  induction vs generalizing j0 with
  | nil => intro t ht; cases ht
  | cons v vs ih =>
    intro t ht
    have hrest : ∀ t ∈ rowTriples i (j0 + 1) vs, t.1 = i ∧ j0 ≤ t.2.1 ∧ t.2.1 < j0 + (v :: vs).length :=
      fun t ht => have h := ih (j0 + 1) t ht
        ⟨h.1, Nat.le_of_succ_le h.2.1, lt_add_succ_of_lt h.2.2⟩
    rw [rowTriples] at ht
    split at ht
    · exact hrest t ht
    · rcases List.mem_cons.mp ht with rfl | ht'
      · exact ⟨rfl, Nat.le_refl _, Nat.lt_add_of_pos_right (Nat.succ_pos _)⟩
      · exact hrest t ht'

theorem gridTriples_range (D : Grid) (m : Nat) (hD : ∀ r ∈ D, r.length = m) (i0 : Nat) :
    ∀ t ∈ gridTriples i0 D, i0 ≤ t.1 ∧ t.1 < i0 + D.length ∧ t.2.1 < m := by
  induction D generalizing i0 with
  | nil => intro t ht; cases ht
  | cons r rs ih =>
    intro t ht
    rw [gridTriples, List.mem_append] at ht
    rcases ht with ht | ht
    · have h := rowTriples_range i0 r 0 t ht
      rw [Nat.zero_add, hD r List.mem_cons_self] at h
      exact ⟨Nat.le_of_eq h.1.symm, h.1 ▸ Nat.lt_add_of_pos_right (Nat.succ_pos _), h.2.2⟩
    · have h := ih (fun r' hr' => hD r' (List.mem_cons_of_mem _ hr')) (i0 + 1) t ht
      exact ⟨Nat.le_of_succ_le h.1, lt_add_succ_of_lt h.2.1, h.2.2⟩

/-! ### dictionaries -/

theorem sumL_filter_key (d : Dict) (k : Coord) (h : (d.map (·.1)).Nodup) :
    sumL ((d.filter (fun e => e.1 == k)).map (·.2)) = (d.lookup k).getD 0 := by
  induction d with
  | nil => rfl
  | cons e es ih =>
    obtain ⟨k', v⟩ := e
    rw [List.map_cons, List.nodup_cons] at h
    rw [List.filter_cons, List.lookup_cons]
    by_cases hk : k' = k
    · subst hk
      have h0 := ih h.2
      rw [lookup_none_of_not_mem es k' h.1] at h0
      rw [if_pos (beq_self_eq_true k'), beq_self_eq_true, List.map_cons, sumL_cons, h0]
      exact Rat.add_zero v
    · rw [if_neg (by simpa using hk), beq_eq_false_iff_ne.mpr (Ne.symm hk)]
      exact ih h.2

theorem cellSum_dictTriples (d : Dict) (h : (d.map (·.1)).Nodup) (i j : Nat) :
    cellSum (dictTriples d) i j = (d.lookup (i, j)).getD 0 := by
  rw [← sumL_filter_key d (i, j) h]
  exact cellSum_map d _ _ i j fun e _ => by rw [beq_iff_eq, Prod.ext_iff]

theorem inRange_dictTriples (n m : Nat) (d : Dict) :
    inRange n m (dictTriples d) = true ↔ ∀ e ∈ d, e.1.1 < n ∧ e.1.2 < m := by
  rw [inRange_iff]
  constructor
  · intro h e he
    exact h (e.1.1, e.1.2, e.2) (by simp only [dictTriples, List.mem_map]; exact ⟨e, he, rfl⟩)
  · intro h t ht
    simp only [dictTriples, List.mem_map] at ht
    obtain ⟨e, he, rfl⟩ := ht
    exact h e he

/-! ### every accepted form decodes to the grid it describes -/

theorem decode_vec (v : List Rat) (D : Grid) (n m : Nat) (hD : gridIs D n m = true) (hm : 1 ≤ m)
    (hn : n = 1) (hv : D = [v]) : vecToSparse v = ⟨n, m, D⟩ := by
  subst hv hn
  rw [gridIs_iff] at hD
  have hl : v.length = m := hD.2 v (List.mem_cons_self)
  have : ¬ m = 0 := Nat.ne_of_gt hm
  simp [vecToSparse, this, hl]

theorem decode_arr (D : Grid) (n m : Nat) (hn : 1 ≤ n) (hm : 1 ≤ m) : arrToSparse n m D = ⟨n, m, D⟩ := by
  have : ¬ ((n = 1 ∧ m = 0) ∨ (n = 0 ∧ m = 1)) := fun h =>
    h.elim (fun h => Nat.ne_of_gt hm h.2) (fun h => Nat.ne_of_gt hn h.1)
  simp [arrToSparse, this]

theorem decode_listArr (D : Grid) (n m : Nat) (hD : gridIs D n m = true) (hn : 1 ≤ n) :
    listNparrayToSparse D = .ok ⟨n, m, D⟩ := by
  have hl := (gridIs_iff D n m).mp hD
  simp only [listNparrayToSparse, headD_length D n m hD hn, all_length D n m hD, if_true, hl.1]

theorem sumL_nR_eq_length (ms : List Mat) (h : ∀ M ∈ ms, M.rows.length = M.nR) :
    sumL (ms.map (·.nR)) = (ms.flatMap (·.rows)).length := by
  induction ms with
  | nil => simp [sumL]
  | cons M rest ih =>
    have h1 := h M (List.mem_cons_self)
    have h2 := ih (fun M' hM' => h M' (List.mem_cons_of_mem _ hM'))
    simp only [sumL, List.map_cons, List.foldr_cons, List.flatMap_cons, List.length_append] at h2 ⊢
    rw [h2, h1]

theorem decode_listSparse (ms : List Mat) (D : Grid) (n m : Nat) (hD : gridIs D n m = true) (hn : 1 ≤ n)
    (hms : ms.all (fun M => M.nC == m && matIs M) = true) (hrows : ms.flatMap (·.rows) = D) :
    listSparseToSparse ms = .ok ⟨n, m, D⟩ := by
  have hl := (gridIs_iff D n m).mp hD
  have hall : ∀ M ∈ ms, M.nC = m ∧ M.rows.length = M.nR := by
    intro M hM
    have := (List.all_eq_true.mp hms) M hM
    simp only [Bool.and_eq_true, beq_iff_eq, matIs, gridIs] at this
    exact ⟨this.1, this.2.1⟩
  cases ms with
  | nil => subst hrows; exact absurd hl.1 (Nat.ne_of_lt hn)
  | cons m0 rest =>
    have h0 := hall m0 (List.mem_cons_self)
    have hc : (m0 :: rest).all (fun M => M.nC == m0.nC) = true := by
      rw [List.all_eq_true]; intro M hM
      simp [(hall M hM).1, h0.1]
    simp only [listSparseToSparse, hc, if_true]
    rw [sumL_nR_eq_length (m0 :: rest) (fun M hM => (hall M hM).2), hrows, hl.1, h0.1]

theorem decode_emptyList (D : Grid) (n m : Nat) (hD : gridIs D n m = true)
    (hz : allCells n m (fun i j => cellD D i j == 0) = true) :
    tabulate n m (fun _ _ => 0) = D := by
  apply tabulate_eq D n m _ hD
  intro i j hi hj
  exact (beq_iff_eq.mp ((allCells_iff n m _).mp hz i j hi hj)).symm

theorem decode_dict (kv : Dict) (D : Grid) (n m : Nat) (hD : gridIs D n m = true)
    (hk : nodupKeys kv = true) (hr : inRange n m (dictTriples kv) = true)
    (hc : allCells n m (fun i j => (kv.lookup (i, j)).getD 0 == cellD D i j) = true) :
    dictToSparse kv (some (n, m)) = .ok ⟨n, m, D⟩ := by
  simp only [dictToSparse, cooArraysToSparse]
  apply cooDense_eq n m _ D hD hr
  intro i j hi hj
  rw [cellSum_dictTriples kv (of_decide_eq_true hk)]
  exact beq_iff_eq.mp ((allCells_iff n m _).mp hc i j hi hj)

theorem decode_triples (ls : Grid) (ts : List Triple) (D : Grid) (n m : Nat) (hD : gridIs D n m = true)
    (ht : triplesOf? ls = some ts) (hr : inRange n m ts = true)
    (hc : allCells n m (fun i j => cellSum ts i j == cellD D i j) = true) :
    listListToSparse ls (some (n, m)) = .ok ⟨n, m, D⟩ := by
  simp only [listListToSparse, ht, cooArraysToSparse]
  apply cooDense_eq n m _ D hD hr
  intro i j hi hj
  exact beq_iff_eq.mp ((allCells_iff n m _).mp hc i j hi hj)

theorem cooOfLists_grid (D : Grid) (n m : Nat) (hD : gridIs D n m = true) (hn : 1 ≤ n) :
    cooOfLists D = .ok (n, m, gridTriples 0 D) := by
  have hl := (gridIs_iff D n m).mp hD
  simp only [cooOfLists, headD_length D n m hD hn, all_length D n m hD, if_true, hl.1]

theorem decode_denseLists (D : Grid) (n m : Nat) (hD : gridIs D n m = true) :
    cooArraysToSparse (gridTriples 0 D) (some (n, m)) = .ok ⟨n, m, D⟩ := by
  have hl := (gridIs_iff D n m).mp hD
  simp only [cooArraysToSparse]
  apply cooDense_eq n m _ D hD
  · rw [inRange_iff]
    intro t ht
    have := gridTriples_range D m hl.2 0 t ht
    exact ⟨by rw [← hl.1, ← Nat.zero_add D.length]; exact this.2.1, this.2.2⟩
  · intro i j _ _
    rw [gridTriples_cellSum, if_pos (Nat.zero_le _), Nat.sub_zero]

/-! ### lists of dictionaries: the orientation guess -/

def placeAt (isCol : Bool) (idx : Nat) (e : Coord × Rat) : Triple :=
  if isCol then (e.1.1, idx, e.2) else (idx, e.1.2, e.2)

theorem enumTriples_cons (isCol : Bool) (idx : Nat) (d : Dict) (rest : List Dict) :
    enumTriples isCol idx (d :: rest) = d.map (placeAt isCol idx) ++ enumTriples isCol (idx + 1) rest := rfl

theorem mem_allKeys (ds : List Dict) (k : Coord) : k ∈ allKeys ds ↔ ∃ d ∈ ds, ∃ e ∈ d, e.1 = k := by
  simp only [allKeys, List.mem_flatMap, List.mem_map]

theorem getD_mem_or_nil {α : Type} (ds : List (List α)) (i : Nat) : ds.getD i [] ∈ ds ∨ ds.getD i [] = [] := by
  rw [List.getD_eq_getElem?_getD]
  by_cases h : i < ds.length
  · left; simp [h]
  · right; simp [List.getElem?_eq_none (Nat.le_of_not_lt h)]

theorem mem_enumTriples (isCol : Bool) (ds : List Dict) (k : Nat) :
    ∀ t ∈ enumTriples isCol k ds, ∃ d ∈ ds, ∃ e ∈ d, ∃ p, p < k + ds.length ∧ t = placeAt isCol p e := by
  induction ds generalizing k with
  | nil => intro t ht; cases ht
  | cons d rest ih =>
    intro t ht
    rw [enumTriples_cons, List.mem_append, List.length_cons] at *
    rcases ht with ht | ht
    · obtain ⟨e, he, rfl⟩ := List.mem_map.mp ht
      exact ⟨d, List.mem_cons_self, e, he, k, Nat.lt_add_of_pos_right (Nat.succ_pos _), rfl⟩
    · obtain ⟨d', hd', e, he, p, hp, rfl⟩ := ih (k + 1) t ht
      exact ⟨d', List.mem_cons_of_mem _ hd', e, he, p, lt_add_succ_of_lt hp, rfl⟩

theorem cellSum_placeAt_ne (isCol : Bool) (p : Nat) (d : Dict) (i j μ : Nat) (hμ : μ = if isCol then j else i)
    (h : p ≠ μ) : cellSum (d.map (placeAt isCol p)) i j = 0 := by
  apply cellSum_eq_zero
  intro t ht hc
  obtain ⟨e, _, rfl⟩ := List.mem_map.mp ht
  subst hμ
  cases isCol
  · exact h hc.1
  · exact h hc.2

theorem enumTriples_cellSum (isCol : Bool) (ds : List Dict) (k i j μ : Nat) (hμ : μ = if isCol then j else i) :
    cellSum (enumTriples isCol k ds) i j =
      if k ≤ μ then cellSum ((ds.getD (μ - k) []).map (placeAt isCol μ)) i j else 0 := by
  induction ds generalizing k with
  | nil => simp only [enumTriples, List.getD_nil, List.map_nil, cellSum_nil, ite_self]
  | cons d rest ih =>
    rw [enumTriples_cons, cellSum_append, ih (k + 1)]
    rcases Nat.lt_trichotomy μ k with h | h | h
    · rw [cellSum_placeAt_ne isCol k d i j μ hμ (Nat.ne_of_gt h), if_neg (Nat.not_le_of_gt h),
        if_neg (Nat.not_le_of_gt (Nat.lt_succ_of_lt h))]
      exact Rat.add_zero 0
    · subst h
      rw [if_neg (Nat.not_succ_le_self μ), if_pos (Nat.le_refl μ), Nat.sub_self, List.getD_cons_zero]
      exact Rat.add_zero _
    · rw [cellSum_placeAt_ne isCol k d i j μ hμ (Nat.ne_of_lt h), if_pos (show k + 1 ≤ μ from h), if_pos (Nat.le_of_lt h),
        sub_eq_succ h, List.getD_cons_succ]
      exact Rat.zero_add _

theorem cellSum_placeAt (isCol : Bool) (d : Dict) (i j : Nat) (hk : (d.map (·.1)).Nodup)
    (h0 : ∀ e ∈ d, (if isCol then e.1.2 else e.1.1) = 0) :
    cellSum (d.map (placeAt isCol (if isCol then j else i))) i j =
      (d.lookup (if isCol then (i, 0) else (0, j))).getD 0 := by
  rw [← sumL_filter_key d _ hk]
  cases isCol
  · refine cellSum_map d _ _ i j fun e he => ?_
    have h : e.1.1 = 0 := h0 e he
    show (e.1 == (0, j)) = true ↔ i = i ∧ e.1.2 = j
    rw [beq_iff_eq, Prod.ext_iff]; exact ⟨fun h' => ⟨rfl, h'.2⟩, fun h' => ⟨h, h'.2⟩⟩
  · refine cellSum_map d _ _ i j fun e he => ?_
    have h : e.1.2 = 0 := h0 e he
    show (e.1 == (i, 0)) = true ↔ e.1.1 = i ∧ j = j
    rw [beq_iff_eq, Prod.ext_iff]; exact ⟨fun h' => ⟨h'.1, rfl⟩, fun h' => ⟨h'.1, h⟩⟩

/-- what `list_dict_to_sparse` hands to scipy, once the orientation is settled: dictionaries whose
keys have 0 in the coordinate that the list position replaces, one per line of the grid -/
theorem cooDense_enumTriples (isCol : Bool) (ds : List Dict) (D : Grid) (n m : Nat) (hD : gridIs D n m = true)
    (hlen : ds.length = if isCol then m else n)
    (hds : ∀ d ∈ ds, (d.map (·.1)).Nodup ∧
      ∀ e ∈ d, if isCol then e.1.2 = 0 ∧ e.1.1 < n else e.1.1 = 0 ∧ e.1.2 < m)
    (hcells : ∀ i j, i < n → j < m →
      ((ds.getD (if isCol then j else i) []).lookup (if isCol then (i, 0) else (0, j))).getD 0 = cellD D i j) :
    cooDense n m (enumTriples isCol 0 ds) = .ok ⟨n, m, D⟩ := by
  apply cooDense_eq n m _ D hD
  · rw [inRange_iff]
    intro t ht
    obtain ⟨d, hd, e, he, p, hp, rfl⟩ := mem_enumTriples isCol ds 0 t ht
    have hk := (hds d hd).2 e he
    rw [Nat.zero_add, hlen] at hp
    cases isCol
    · exact ⟨hp, hk.2⟩
    · exact ⟨hk.2, hp⟩
  · intro i j hi hj
    rw [enumTriples_cellSum isCol ds 0 i j _ rfl, if_pos (Nat.zero_le _), Nat.sub_zero, ← hcells i j hi hj]
    rcases getD_mem_or_nil ds (if isCol then j else i) with hmem | hnil
    · apply cellSum_placeAt isCol _ i j (hds _ hmem).1
      intro e he
      have := (hds _ hmem).2 e he
      cases isCol
      · exact this.1
      · exact this.1
    · rw [hnil]; rfl

theorem decode_rowDicts (ds : List Dict) (D : Grid) (n m : Nat) (hD : gridIs D n m = true) (hm : 1 ≤ m)
    (h : rowDicts ds D n m = true) : listDictToSparse ds = .ok ⟨n, m, D⟩ := by
  simp only [rowDicts, nodupKeys, Bool.and_eq_true, beq_iff_eq, List.all_eq_true, List.any_eq_true,
    decide_eq_true_eq, allCells_iff] at h
  obtain ⟨⟨⟨hlen, hds⟩, hlast⟩, hcells⟩ := h
  have hkeys : ∀ k ∈ allKeys ds, k.1 = 0 ∧ k.2 < m := fun k hk => by
    obtain ⟨d, hd, e, he, rfl⟩ := (mem_allKeys ds k).mp hk
    exact (hds d hd).2 e he
  have hne : (allKeys ds).isEmpty = false := by
    obtain ⟨k, hk, _⟩ := hlast
    exact List.isEmpty_eq_false_iff.mpr (List.ne_nil_of_mem hk)
  have hR := maxL_map_zero (·.1) _ fun k hk => (hkeys k hk).1
  have hC := maxL_map_last (·.2) _ m (fun k hk => (hkeys k hk).2) hlast
  have hguess : guessIsCol ds = false := by
    rw [guessIsCol, hR, hC]; exact decide_eq_false (Nat.not_lt.mpr hm)
  rw [listDictToSparse, hne, hguess, hC, hlen]
  exact cooDense_enumTriples false ds D n m hD hlen hds hcells

theorem decode_colDicts (ds : List Dict) (D : Grid) (n m : Nat) (hD : gridIs D n m = true)
    (h : colDicts ds D n m = true) : listDictToSparse ds = .ok ⟨n, m, D⟩ := by
  simp only [colDicts, nodupKeys, Bool.and_eq_true, beq_iff_eq, List.all_eq_true, List.any_eq_true,
    decide_eq_true_eq, allCells_iff] at h
  obtain ⟨⟨⟨⟨hn, hlen⟩, hds⟩, hlast⟩, hcells⟩ := h
  have hkeys : ∀ k ∈ allKeys ds, k.2 = 0 ∧ k.1 < n := fun k hk => by
    obtain ⟨d, hd, e, he, rfl⟩ := (mem_allKeys ds k).mp hk
    exact (hds d hd).2 e he
  have hne : (allKeys ds).isEmpty = false := by
    obtain ⟨k, hk, _⟩ := hlast
    exact List.isEmpty_eq_false_iff.mpr (List.ne_nil_of_mem hk)
  have hC := maxL_map_zero (·.2) _ fun k hk => (hkeys k hk).1
  have hR := maxL_map_last (·.1) _ n (fun k hk => (hkeys k hk).2) hlast
  have hguess : guessIsCol ds = true := by
    rw [guessIsCol, hR, hC]; exact decide_eq_true hn
  rw [listDictToSparse, hne, hguess, hR, hlen]
  exact cooDense_enumTriples true ds D n m hD hlen hds hcells

/-! ### `_to_sparse` on an accepted encoding -/

/-- forms whose matrix shape comes from the value itself and is kept by `_to_sparse` -/
def ownShape (d : Data) : Bool :=
  match d with
  | .dict _ => false
  | .emptyList => false
  | .listList _ => false
  | .unknown => false
  | _ => true

theorem encodes_dims (d : Data) (dense : Bool) (D : Grid) (n m : Nat) (h : encodes d dense D n m = true) :
    gridIs D n m = true ∧ 1 ≤ n ∧ 1 ≤ m := by
  simp only [encodes, Bool.and_eq_true, decide_eq_true_eq] at h
  exact ⟨h.1.1.1, h.1.1.2, h.1.2⟩

theorem toSparse_of_encodes (d : Data) (dense : Bool) (D : Grid) (n m : Nat) (shape : Nat × Nat)
    (h : encodes d dense D n m = true) (hs : ownShape d = true ∨ shape = (n, m)) :
    toSparse d dense shape = .ok ⟨n, m, D⟩ := by
  simp only [encodes, Bool.and_eq_true, decide_eq_true_eq] at h
  obtain ⟨⟨⟨hD, hn⟩, hm⟩, hform⟩ := h
  cases d with
  | vec v =>
    rw [Bool.and_eq_true, beq_iff_eq, beq_iff_eq] at hform
    exact congrArg Except.ok (decode_vec v D n m hD hm hform.1 hform.2)
  | arr nR nC rows =>
    simp only [Bool.and_eq_true, beq_iff_eq] at hform
    obtain ⟨⟨rfl, rfl⟩, rfl⟩ := hform
    exact congrArg Except.ok (decode_arr rows nR nC hn hm)
  | emptyList =>
    obtain rfl : shape = (n, m) := hs.resolve_left Bool.false_ne_true
    exact congrArg (fun g => Except.ok (Mat.mk n m g)) (decode_emptyList D n m hD hform)
  | listArr rows =>
    obtain rfl : rows = D := beq_iff_eq.mp hform
    exact decode_listArr rows n m hD hn
  | listDict ds =>
    rcases Bool.or_eq_true_iff.mp hform with hr | hc
    · exact decode_rowDicts ds D n m hD hm hr
    · exact decode_colDicts ds D n m hD hc
  | listSparse ms =>
    rw [Bool.and_eq_true, beq_iff_eq] at hform
    exact decode_listSparse ms D n m hD hn hform.1 hform.2
  | dict kv =>
    obtain rfl : shape = (n, m) := hs.resolve_left Bool.false_ne_true
    simp only [Bool.and_eq_true] at hform
    exact decode_dict kv D n m hD hform.1.1 hform.1.2 hform.2
  | listList ls =>
    obtain rfl : shape = (n, m) := hs.resolve_left Bool.false_ne_true
    cases dense with
    | true =>
      obtain rfl : ls = D := beq_iff_eq.mp hform
      simp only [toSparse, if_true, cooOfLists_grid ls n m hD hn, bind, Except.bind, ne_eq,
        not_true_eq_false, if_false, decode_denseLists ls n m hD]
    | false =>
      simp only [Bool.false_eq_true, if_false] at hform
      cases ht : triplesOf? ls with
      | none => rw [ht] at hform; cases hform
      | some ts =>
        simp only [ht, Bool.and_eq_true] at hform
        exact decode_triples ls ts D n m hD ht hform.1 hform.2
  | sparse M =>
    simp only [Bool.and_eq_true, beq_iff_eq] at hform
    obtain ⟨⟨rfl, rfl⟩, rfl⟩ := hform
    rfl
  | unknown => cases hform

/-- a value that brings a shape other than the one the ID counts announce, and is not taken with its
own shape, is a nested dense list: `_to_sparse` compares the two shapes and refuses -/
theorem toSparse_shape_mismatch (d : Data) (dense : Bool) (D : Grid) (n m : Nat) (shape : Nat × Nat)
    (h : encodes d dense D n m = true) (hcs : carriesShape d dense = true) (hown : ownShape d = false)
    (hs : shape ≠ (n, m)) : toSparse d dense shape = .error .tableException := by
  cases d with
  | listList ls =>
    obtain rfl : dense = true := hcs
    simp only [encodes, Bool.and_eq_true, decide_eq_true_eq, if_true] at h
    obtain ⟨⟨⟨hD, hn⟩, _⟩, hform⟩ := h
    obtain rfl : ls = D := beq_iff_eq.mp hform
    have hne : ¬ ((n, m) = shape) := fun e => hs e.symm
    simp only [toSparse, if_true, cooOfLists_grid ls n m hD hn, bind, Except.bind, ne_eq, hne,
      not_false_eq_true]
  | dict _ => cases hcs
  | emptyList => cases hcs
  | unknown => simp [encodes] at h
  | vec _ => cases hown
  | arr _ _ _ => cases hown
  | listArr _ => cases hown
  | listDict _ => cases hown
  | listSparse _ => cases hown
  | sparse _ => cases hown

/-! ### the checks of the constructor -/

theorem dedup_length_le (ids : List Id) : (dedup ids).length ≤ ids.length := by
  induction ids with
  | nil => simp [dedup]
  | cons x xs ih =>
    rw [dedup]
    split
    · exact Nat.le_succ_of_le ih
    · exact Nat.succ_le_succ ih

theorem dedup_of_nodup (ids : List Id) (h : ids.Nodup) : dedup ids = ids := by
  induction ids with
  | nil => rfl
  | cons x xs ih =>
    rw [List.nodup_cons] at h
    simp only [dedup, h.1, if_false, ih h.2]

theorem dedup_length_lt (ids : List Id) (h : ¬ ids.Nodup) : (dedup ids).length < ids.length := by
  induction ids with
  | nil => exact absurd List.nodup_nil h
  | cons x xs ih =>
    simp only [dedup]
    by_cases hx : x ∈ xs
    · simp only [hx, if_true, List.length_cons]
      exact Nat.lt_succ_of_le (dedup_length_le xs)
    · simp only [hx, if_false, List.length_cons]
      have : ¬ xs.Nodup := fun hn => h (List.nodup_cons.mpr ⟨hx, hn⟩)
      exact Nat.succ_lt_succ (ih this)

theorem dedup_length_eq_iff (ids : List Id) : (dedup ids).length = ids.length ↔ ids.Nodup :=
  ⟨fun h => Decidable.by_contra fun hn => Nat.ne_of_lt (dedup_length_lt ids hn) h,
   fun h => by rw [dedup_of_nodup ids h]⟩

/-- the `obsmdsize` / `sampmdsize` test on an axis of `k` lines -/
def mdFires (md : Option (List MdEntry)) (k : Nat) : Bool :=
  match md with
  | some l => k != l.length
  | none => false

/-- some test other than `empty` fires -/
def anyFires (M : Mat) (obs samp : List Id) (omd smd : Option (List MdEntry)) : Bool :=
  M.nR != (dedup obs).length || mdFires omd M.nR || M.nR != obs.length ||
  M.nC != (dedup samp).length || mdFires smd M.nC || M.nC != samp.length

theorem anyFires_eq_false (M : Mat) (obs samp : List Id) (omd smd : Option (List MdEntry)) :
    anyFires M obs samp omd smd = false ↔
      M.nR = (dedup obs).length ∧ mdFires omd M.nR = false ∧ M.nR = obs.length ∧
      M.nC = (dedup samp).length ∧ mdFires smd M.nC = false ∧ M.nC = samp.length := by
  simp only [anyFires, Bool.or_eq_false_iff, bne_eq_false_iff_eq, and_assoc]

theorem fires_empty (M : Mat) (obs samp : List Id) (omd smd : Option (List MdEntry)) :
    fires M obs samp omd smd "empty" = (obs.isEmpty || samp.isEmpty) := if_pos rfl

theorem kindsSorted_any_fires (M : Mat) (obs samp : List Id) (omd smd : Option (List MdEntry)) :
    kindsSorted.any (fires M obs samp omd smd) =
      (obs.isEmpty || samp.isEmpty || anyFires M obs samp omd smd) := by
  simp only [kindsSorted, fires, List.any_cons, List.any_nil, String.reduceEq, ↓reduceIte, anyFires,
    Bool.or_false, Bool.or_assoc]
  rfl

theorem defaultProfile_raise (k : String) (h : k ≠ "empty") : defaultProfile k = "raise" := if_neg h

theorem errcheck_of_raise (prof : String → String) (M : Mat) (obs samp : List Id)
    (omd smd : Option (List MdEntry)) (hp : ∀ k, fires M obs samp omd smd k = true → prof k = "raise") :
    errcheck prof M obs samp omd smd =
      if kindsSorted.any (fires M obs samp omd smd) then .error .tableException else .ok () := by
  unfold errcheck
  cases hf : kindsSorted.find? (fires M obs samp omd smd) with
  | none =>
    refine (if_neg fun h => ?_).symm
    obtain ⟨k, hk, hfk⟩ := List.any_eq_true.mp h
    exact List.find?_eq_none.mp hf k hk hfk
  | some k =>
    rw [if_pos (List.any_eq_true.mpr ⟨k, List.mem_of_find?_eq_some hf, List.find?_some hf⟩)]
    exact if_pos (hp k (List.find?_some hf))

/-- with IDs on both axes `empty` is silent, so its reaction does not matter -/
theorem errcheck_nonempty (prof : String → String) (hp : ∀ k, k ≠ "empty" → prof k = "raise")
    (M : Mat) (obs samp : List Id) (omd smd : Option (List MdEntry)) (ho : obs ≠ []) (hs : samp ≠ []) :
    errcheck prof M obs samp omd smd =
      if anyFires M obs samp omd smd then .error .tableException else .ok () := by
  have e0 : (obs.isEmpty || samp.isEmpty) = false := by
    rw [Bool.or_eq_false_iff, List.isEmpty_eq_false_iff, List.isEmpty_eq_false_iff]; exact ⟨ho, hs⟩
  rw [errcheck_of_raise, kindsSorted_any_fires, e0, Bool.false_or]
  intro k hk
  apply hp
  rintro rfl
  rw [fires_empty, e0] at hk
  cases hk

/-- without IDs on an axis `empty` fires first, and the default profile ignores it -/
theorem errcheck_empty (M : Mat) (obs samp : List Id) (omd smd : Option (List MdEntry))
    (h : obs = [] ∨ samp = []) : errcheck defaultProfile M obs samp omd smd = .ok () := by
  have e0 : fires M obs samp omd smd "empty" = true := by
    rw [fires_empty]; rcases h with rfl | rfl <;> simp only [List.isEmpty_nil, Bool.true_or, Bool.or_true]
  unfold errcheck kindsSorted
  rw [List.find?_cons_of_pos e0]
  simp only [defaultProfile, String.reduceEq, ↓reduceIte]

theorem castMd_cases (md : Option (List MdEntry)) :
    (∃ r, castMd md = .ok r) ∨ castMd md = .error .tableException := by
  cases md with
  | none => left; exact ⟨none, rfl⟩
  | some l =>
    simp only [castMd]
    split
    · left; exact ⟨_, rfl⟩
    · split
      · right; rfl
      · left; exact ⟨_, rfl⟩

theorem other_not_blank (l : List MdEntry) (h : l.any MdEntry.isOther = true) : l.all MdEntry.blank = false := by
  rw [List.any_eq_true] at h
  obtain ⟨e, he, ho⟩ := h
  cases hb : l.all MdEntry.blank with
  | false => rfl
  | true =>
    have := (List.all_eq_true.mp hb) e he
    cases e <;> simp [MdEntry.isOther, MdEntry.blank] at ho this

theorem normMd_of_bad (l : List MdEntry) (ids : List Id) (h : mdBad (some l) ids = true) :
    normMd (some l) ids = some l := by
  simp only [mdBad, Bool.or_eq_true, bne_iff_ne, ne_eq] at h
  simp only [normMd]
  rcases h with h | h
  · have : (l.length == ids.length) = false := by simpa using h
    simp [this]
  · simp [other_not_blank l h]

theorem castMd_of_other (l : List MdEntry) (h : l.any MdEntry.isOther = true) :
    castMd (some l) = .error .tableException := by
  simp [castMd, other_not_blank l h, h]

theorem castMd_of_bad (md : Option (List MdEntry)) (ids : List Id) (k : Nat) (h : mdBad md ids = true)
    (hf : mdFires (normMd md ids) k = false) (hk : k = ids.length) :
    castMd (normMd md ids) = .error .tableException := by
  cases md with
  | none => cases h
  | some l =>
    rw [normMd_of_bad l ids h] at hf ⊢
    have hlen : k = l.length := by simpa [mdFires] using hf
    apply castMd_of_other
    simp only [mdBad, Bool.or_eq_true, bne_iff_ne, ne_eq] at h
    exact h.resolve_left (fun hne => hne (hlen.symm.trans hk))

theorem mdFires_of_good (md : Option (List MdEntry)) (ids : List Id) (k : Nat)
    (h : mdBad md ids = false) (hk : ids.length = k) : mdFires (normMd md ids) k = false := by
  cases md with
  | none => rfl
  | some l =>
    simp only [mdBad, Bool.or_eq_false_iff, bne_eq_false_iff_eq] at h
    simp only [normMd]
    split
    · rfl
    · simp only [mdFires, h.1, hk, bne_self_eq_false]

/-- what a well-formed metadata argument becomes -/
def mdOut (md : Option (List MdEntry)) : Option (List Md) :=
  match md with
  | none => none
  | some l => if l.all MdEntry.blank then none else some (l.map MdEntry.toMd)

theorem castMd_normMd_good (md : Option (List MdEntry)) (ids : List Id) (h : mdBad md ids = false) :
    castMd (normMd md ids) = .ok (mdOut md) := by
  cases md with
  | none => rfl
  | some l =>
    simp only [mdBad, Bool.or_eq_false_iff, bne_eq_false_iff_eq] at h
    obtain ⟨hlen, hno⟩ := h
    simp only [normMd, hlen, beq_self_eq_true, Bool.true_and, mdOut]
    cases hb : l.all MdEntry.blank with
    | true => simp [castMd]
    | false => simp [castMd, hb, hno]

/-- everything after `_to_sparse`, for a table with IDs on both axes -/
theorem finish_nonempty (prof : String → String) (hp : ∀ k, k ≠ "empty" → prof k = "raise")
    (M : Mat) (obs samp : List Id) (omd smd : Option (List MdEntry)) (ho : obs ≠ []) (hs : samp ≠ []) :
    finish prof M obs samp omd smd =
      if anyFires M obs samp (normMd omd obs) (normMd smd samp) then .error .tableException
      else (do
        let s ← castMd (normMd smd samp)
        let o ← castMd (normMd omd obs)
        pure { obs := obs, samp := samp, rows := M.rows, omd := o, smd := s }) := by
  simp only [finish, errcheck_nonempty prof hp _ _ _ _ _ ho hs]
  split <;> rfl

theorem finish_empty (M : Mat) (obs samp : List Id) (h : obs = [] ∨ samp = []) :
    finish defaultProfile M obs samp none none = .ok { obs := obs, samp := samp, rows := M.rows } := by
  simp only [finish, errcheck_empty M obs samp _ _ h]
  rfl

theorem finish_reject_md (M : Mat) (obs samp : List Id) (omd smd : Option (List MdEntry))
    (ho : obs ≠ []) (hs : samp ≠ [])
    (h : mdBad omd obs = true ∨ mdBad smd samp = true) :
    finish defaultProfile M obs samp omd smd = .error .tableException := by
  rw [finish_nonempty _ defaultProfile_raise M obs samp omd smd ho hs]
  split
  · rfl
  · rename_i hf
    obtain ⟨_, hmo, hno, _, hms, hns⟩ := (anyFires_eq_false ..).mp (Bool.not_eq_true _ ▸ hf)
    rcases h with h | h
    · rw [castMd_of_bad omd obs _ h hmo hno]
      -- the sample metadata is cast first: to something, and the observation cast stops the
      -- constructor, or to the same error
      rcases castMd_cases (normMd smd samp) with ⟨r, hr⟩ | hr
      · rw [hr]; rfl
      · rw [hr]; rfl
    · rw [castMd_of_bad smd samp _ h hms hns]; rfl

theorem finish_reject_ids (M : Mat) (obs samp : List Id) (omd smd : Option (List MdEntry))
    (ho : obs ≠ []) (hs : samp ≠ [])
    (h : ¬ obs.Nodup ∨ ¬ samp.Nodup ∨ obs.length ≠ M.nR ∨ samp.length ≠ M.nC) :
    finish defaultProfile M obs samp omd smd = .error .tableException := by
  rw [finish_nonempty _ defaultProfile_raise M obs samp omd smd ho hs, if_pos]
  refine Bool.of_not_eq_false fun hf => ?_
  obtain ⟨h1, _, h2, h3, _, h4⟩ := (anyFires_eq_false ..).mp hf
  rw [← dedup_length_eq_iff, ← dedup_length_eq_iff] at h
  exact h.elim (· (h1.symm.trans h2)) fun h => h.elim (· (h3.symm.trans h4)) fun h =>
    h.elim (· h2.symm) (· h4.symm)

theorem finish_accept (M : Mat) (obs samp : List Id) (omd smd : Option (List MdEntry))
    (ho : obs ≠ []) (hs : samp ≠ []) (hno : obs.Nodup) (hns : samp.Nodup)
    (hlo : obs.length = M.nR) (hls : samp.length = M.nC)
    (hmo : mdBad omd obs = false) (hms : mdBad smd samp = false) :
    finish defaultProfile M obs samp omd smd =
      .ok { obs := obs, samp := samp, rows := M.rows, omd := mdOut omd, smd := mdOut smd } := by
  rw [finish_nonempty _ defaultProfile_raise M obs samp omd smd ho hs, if_neg, castMd_normMd_good smd samp hms,
    castMd_normMd_good omd obs hmo]
  · rfl
  · rw [Bool.not_eq_true, anyFires_eq_false, dedup_of_nodup obs hno, dedup_of_nodup samp hns]
    exact ⟨hlo.symm, mdFires_of_good omd obs _ hmo hlo, hlo.symm, hls.symm,
      mdFires_of_good smd samp _ hms hls, hls.symm⟩

theorem mdOut_length (md : Option (List MdEntry)) (ids : List Id) (h : mdBad md ids = false) :
    ∀ l, mdOut md = some l → l.length = ids.length := by
  intro l hl
  cases md with
  | none => simp [mdOut] at hl
  | some e =>
    simp only [mdBad, Bool.or_eq_false_iff, bne_eq_false_iff_eq] at h
    simp only [mdOut] at hl
    split at hl
    · cases hl
    · cases hl; simp [h.1]

theorem mdOf_spec (ids : List Id) (md : Option (List MdEntry)) (hn : ids.Nodup) (i : Nat) (hi : i < ids.length) :
    (mdOut md).bind (fun l => lookupBy ids l (ids.getD i "")) = mdWant md i := by
  cases md with
  | none => rfl
  | some l =>
    simp only [mdOut, mdWant]
    split
    · rfl
    · simp only [Option.bind_some]
      rw [lookupBy_getD ids _ hn i hi]; simp only [List.getElem?_map]

/-! ### a table over a grid, asked through its IDs -/

theorem getD_idxOf (l : List String) (a : String) (ha : a ∈ l) : l.getD (l.idxOf a) "" = a := by
  have hla : l.idxOf a < l.length := List.idxOf_lt_length_iff.mpr ha
  rw [List.getD_eq_getElem?_getD, List.getElem?_eq_getElem hla]
  simp [List.getElem_idxOf hla]

theorem cell_of_grid (t : Table Rat) (D : Grid) (n m : Nat) (hD : gridIs D n m = true) (hrows : t.rows = D)
    (hno : t.obs.Nodup) (hns : t.samp.Nodup) (hlo : t.obs.length = n) (hls : t.samp.length = m)
    (i j : Nat) (hi : i < n) (hj : j < m) :
    t.cell? (t.obs.getD i "") (t.samp.getD j "") = some (cellD D i j) := by
  have hl := (gridIs_iff D n m).mp hD
  have hiD : i < D.length := by rw [hl.1]; exact hi
  have hrow : (D[i]).length = m := hl.2 _ (List.getElem_mem hiD)
  have hjr : j < (D[i]).length := by rw [hrow]; exact hj
  simp only [Table.cell?, Table.row?, hrows]
  rw [lookupBy_getD t.obs D hno i (by rw [hlo]; exact hi), List.getElem?_eq_getElem hiD]
  simp only [Option.bind_some]
  rw [lookupBy_getD t.samp (D[i]) hns j (by rw [hls]; exact hj), List.getElem?_eq_getElem hjr]
  simp [cellD, List.getD_eq_getElem?_getD, hiD, hjr]

theorem wfb_tabulate (obs samp : List Id) (f : Nat → Nat → Rat) :
    ({ obs := obs, samp := samp, rows := tabulate obs.length samp.length f } : Table Rat).wfb = true := by
  simp only [Table.wfb, tabulate_length, beq_self_eq_true, Bool.true_and, Bool.and_true]
  exact all_length _ _ _ (gridIs_tabulate _ _ f)

theorem cell_tabulate (obs samp : List Id) (f : Nat → Nat → Rat) (hno : obs.Nodup) (hns : samp.Nodup)
    (o s : Id) (ho : o ∈ obs) (hs : s ∈ samp) :
    ({ obs := obs, samp := samp, rows := tabulate obs.length samp.length f } : Table Rat).cell? o s =
      some (f (obs.idxOf o) (samp.idxOf s)) := by
  have hi := List.idxOf_lt_length_iff.mpr ho
  have hj := List.idxOf_lt_length_iff.mpr hs
  have := cell_of_grid { obs := obs, samp := samp, rows := tabulate obs.length samp.length f } _ _ _
    (gridIs_tabulate _ _ f) rfl hno hns rfl rfl _ _ hi hj
  rwa [getD_idxOf _ o ho, getD_idxOf _ s hs, cellD_tabulate _ _ _ _ _ hi hj] at this

/-! ### adjacency: sorted ID sets, positions, cell sums -/

theorem mem_insertS (x y : String) (l : List String) : y ∈ insertS x l ↔ y = x ∨ y ∈ l := by
  induction l with
  | nil => simp [insertS]
  | cons z zs ih =>
    simp only [insertS]
    split
    · simp
    · split
      · rename_i h; subst h; simp
      · simp only [List.mem_cons, ih]
        constructor
        · rintro (h | h | h) <;> simp [h]
        · rintro (h | h | h) <;> simp [h]

theorem sorted_insertS (x : String) (l : List String) (h : l.Pairwise (· < ·)) :
    (insertS x l).Pairwise (· < ·) := by
  induction l with
  | nil => simp [insertS]
  | cons z zs ih =>
    rw [List.pairwise_cons] at h
    simp only [insertS]
    split
    · rename_i hxz
      rw [List.pairwise_cons]
      refine ⟨?_, List.pairwise_cons.mpr h⟩
      intro a ha
      rcases List.mem_cons.mp ha with rfl | ha'
      · exact hxz
      · exact String.lt_trans hxz (h.1 a ha')
    · split
      · exact List.pairwise_cons.mpr h
      · rename_i h1 h2
        have hzx : z < x := Std.lt_of_le_of_ne (String.not_lt.mp h1) (fun e => h2 e.symm)
        rw [List.pairwise_cons]
        refine ⟨?_, ih h.2⟩
        intro a ha
        rcases (mem_insertS x a zs).mp ha with rfl | ha'
        · exact hzx
        · exact h.1 a ha'

theorem mem_sortDedup (xs : List String) (y : String) : y ∈ sortDedup xs ↔ y ∈ xs := by
  induction xs with
  | nil => simp [sortDedup]
  | cons x xs ih =>
    simp only [sortDedup, List.foldr_cons] at ih ⊢
    rw [mem_insertS, ih]; simp

theorem sortDedup_sorted (xs : List String) : (sortDedup xs).Pairwise (· < ·) := by
  induction xs with
  | nil => simp [sortDedup]
  | cons x xs ih =>
    simp only [sortDedup, List.foldr_cons] at ih ⊢
    exact sorted_insertS x _ ih

theorem nodup_of_sorted (l : List String) (h : l.Pairwise (· < ·)) : l.Nodup := by
  unfold List.Nodup
  apply h.imp
  intro a b hab e
  rw [e] at hab
  exact String.lt_irrefl _ hab

theorem sortedB_of_pairwise (l : List String) (h : l.Pairwise (· < ·)) : sortedB l = true := by
  induction l with
  | nil => rfl
  | cons a as ih =>
    rw [List.pairwise_cons] at h
    cases as with
    | nil => rfl
    | cons b bs =>
      simp only [sortedB, Bool.and_eq_true, decide_eq_true_eq]
      exact ⟨h.1 b (List.mem_cons_self), ih h.2⟩

theorem sameMembers_of_iff (a b : List String) (h : ∀ x, x ∈ a ↔ x ∈ b) : sameMembers a b = true := by
  simp only [sameMembers, Bool.and_eq_true, List.all_eq_true, List.contains_iff_mem]
  exact ⟨fun x hx => (h x).mp hx, fun x hx => (h x).mpr hx⟩

theorem idxOf_inj (l : List String) (a b : String) (ha : a ∈ l) (h : l.idxOf a = l.idxOf b) : a = b := by
  have hla : l.idxOf a < l.length := List.idxOf_lt_length_iff.mpr ha
  have e1 := List.getElem_idxOf hla
  rw [← e1]
  simp only [h]
  exact List.getElem_idxOf (h ▸ hla)

theorem cellSum_adjTriples (oo so : List String) (recs : List (String × String × Rat)) (o s : String)
    (hr : ∀ r ∈ recs, r.1 ∈ oo ∧ r.2.1 ∈ so) :
    cellSum (adjTriples oo so recs) (oo.idxOf o) (so.idxOf s) = adjSum recs o s :=
  cellSum_map recs _ _ _ _ fun r hrm => by
    rw [Bool.and_eq_true, beq_iff_eq, beq_iff_eq]
    exact ⟨fun h => ⟨congrArg oo.idxOf h.1, congrArg so.idxOf h.2⟩,
      fun h => ⟨idxOf_inj oo _ _ (hr r hrm).1 h.1, idxOf_inj so _ _ (hr r hrm).2 h.2⟩⟩

theorem idxOf_last (l : List String) (hn : l.Nodup) (hne : l ≠ []) : ∃ x ∈ l, l.idxOf x + 1 = l.length := by
  have hpos : l.length - 1 < l.length := Nat.sub_one_lt (mt List.length_eq_zero_iff.mp hne)
  refine ⟨l[l.length - 1], List.getElem_mem hpos, ?_⟩
  rw [List.Nodup.idxOf_getElem hn _ hpos]
  exact Nat.sub_add_cancel (List.length_pos_iff.mpr hne)

theorem maxL_idxOf {α : Type} (ids : List String) (l : List α) (f : α → String) (hn : ids.Nodup) (hne : ids ≠ [])
    (hsub : ∀ a ∈ l, f a ∈ ids) (hsup : ∀ y ∈ ids, ∃ a ∈ l, f a = y) :
    maxL (l.map (fun a => ids.idxOf (f a))) + 1 = ids.length := by
  apply maxL_map_last
  · exact fun a ha => List.idxOf_lt_length_iff.mpr (hsub a ha)
  · obtain ⟨y, hy, hidx⟩ := idxOf_last ids hn hne
    obtain ⟨a, ha, rfl⟩ := hsup y hy
    exact ⟨a, ha, hidx⟩

/-- scipy's shape inference on the triples of an adjacency document: when `oo` and `so` list the
names used without repetition, the largest indices are the last positions -/
theorem cooArraysToSparse_adjTriples (oo so : List String) (recs : List (String × String × Rat)) (hne : recs ≠ [])
    (hoo : oo.Nodup) (hso : so.Nodup)
    (hmo : ∀ y, y ∈ oo ↔ y ∈ recs.map (·.1)) (hms : ∀ y, y ∈ so ↔ y ∈ recs.map (·.2.1)) :
    oo ≠ [] ∧ so ≠ [] ∧ cooArraysToSparse (adjTriples oo so recs) none =
      .ok ⟨oo.length, so.length, tabulate oo.length so.length (cellSum (adjTriples oo so recs))⟩ := by
  have hmem : ∀ r ∈ recs, r.1 ∈ oo ∧ r.2.1 ∈ so := fun r hr =>
    ⟨(hmo _).mpr (List.mem_map_of_mem hr), (hms _).mpr (List.mem_map_of_mem hr)⟩
  obtain ⟨r0, hr0⟩ := List.exists_mem_of_ne_nil recs hne
  have hoo_ne : oo ≠ [] := List.ne_nil_of_mem (hmem r0 hr0).1
  have hso_ne : so ≠ [] := List.ne_nil_of_mem (hmem r0 hr0).2
  have hR : maxL ((adjTriples oo so recs).map (·.1)) + 1 = oo.length := by
    rw [adjTriples, List.map_map]
    exact maxL_idxOf oo recs (·.1) hoo hoo_ne (fun r hr => (hmem r hr).1) fun y hy => List.mem_map.mp ((hmo y).mp hy)
  have hC : maxL ((adjTriples oo so recs).map (·.2.1)) + 1 = so.length := by
    rw [adjTriples, List.map_map]
    exact maxL_idxOf so recs (·.2.1) hso hso_ne (fun r hr => (hmem r hr).2) fun y hy => List.mem_map.mp ((hms y).mp hy)
  have hrange : inRange oo.length so.length (adjTriples oo so recs) = true := by
    rw [inRange_iff]
    intro t ht
    obtain ⟨r, hr, rfl⟩ := List.mem_map.mp ht
    exact ⟨List.idxOf_lt_length_iff.mpr (hmem r hr).1, List.idxOf_lt_length_iff.mpr (hmem r hr).2⟩
  have hts : (adjTriples oo so recs).isEmpty = false :=
    List.isEmpty_eq_false_iff.mpr (mt List.map_eq_nil_iff.mp hne)
  refine ⟨hoo_ne, hso_ne, ?_⟩
  rw [cooArraysToSparse, hts, if_neg Bool.false_ne_true, hR, hC, cooDense, hrange, if_pos rfl]

theorem adjRecord_cases (l : AdjLine) :
    if adjValid l then adjRecord l = .ok (adjRecOf l) else ∃ e, adjRecord l = .error e := by
  obtain ⟨fields, num⟩ := l
  match fields, num with
  | [], _ => exact ⟨_, rfl⟩
  | [_], _ => exact ⟨_, rfl⟩
  | [_, _], _ => exact ⟨_, rfl⟩
  | [_, _, _], none => exact ⟨_, rfl⟩
  | [_, _, _], some v => rfl
  | _ :: _ :: _ :: _ :: _, _ => exact ⟨_, rfl⟩

theorem mapM_adjRecord_ok (body : List AdjLine) (h : body.all adjValid = true) :
    body.mapM adjRecord = .ok (body.map adjRecOf) := by
  induction body with
  | nil => rfl
  | cons l ls ih =>
    rw [List.all_cons, Bool.and_eq_true] at h
    have := adjRecord_cases l
    rw [if_pos h.1] at this
    rw [List.mapM_cons, this, ih h.2]
    rfl

theorem mapM_adjRecord_err (body : List AdjLine) (h : body.all adjValid = false) :
    ∃ e, body.mapM adjRecord = .error e := by
  induction body with
  | nil => cases h
  | cons l ls ih =>
    rw [List.mapM_cons]
    have := adjRecord_cases l
    cases hv : adjValid l with
    | false =>
      rw [hv, if_neg Bool.false_ne_true] at this
      obtain ⟨e, he⟩ := this
      exact ⟨e, by rw [he]; rfl⟩
    | true =>
      rw [hv, if_pos rfl] at this
      rw [List.all_cons, hv, Bool.true_and] at h
      obtain ⟨e, he⟩ := ih h
      exact ⟨e, by rw [this, he]; rfl⟩

/-! ### the text before the last underscore -/

theorem beforeLast_none (cs : List Char) : beforeLastUnderscore cs = none ↔ '_' ∉ cs := by
  induction cs with
  | nil => simp [beforeLastUnderscore]
  | cons c cs ih =>
    simp only [beforeLastUnderscore]
    cases h : beforeLastUnderscore cs with
    | some p =>
      have : ¬ ('_' ∉ cs) := fun hn => by rw [ih.mpr hn] at h; cases h
      simp only [List.mem_cons, not_or]
      constructor
      · intro e; cases e
      · intro e; exact absurd e.2 this
    | none =>
      have hn := ih.mp h
      by_cases hc : c = '_'
      · simp [hc]
      · simp only [hc, if_false, List.mem_cons, not_or, true_iff]
        exact ⟨fun e => hc e.symm, hn⟩

theorem beforeLast_spec (p rest : List Char) (h : '_' ∉ rest) :
    beforeLastUnderscore (p ++ '_' :: rest) = some p := by
  induction p with
  | nil => simp [beforeLastUnderscore, (beforeLast_none rest).mpr h]
  | cons c p ih => simp [beforeLastUnderscore, ih]

theorem beforeLast_some (cs p : List Char) (h : beforeLastUnderscore cs = some p) :
    ∃ rest, cs = p ++ '_' :: rest ∧ '_' ∉ rest := by
  induction cs generalizing p with
  | nil => simp [beforeLastUnderscore] at h
  | cons c cs ih =>
    simp only [beforeLastUnderscore] at h
    cases hr : beforeLastUnderscore cs with
    | some p' =>
      rw [hr] at h
      cases h
      obtain ⟨rest, e, hn⟩ := ih p' hr
      exact ⟨rest, by rw [e]; rfl, hn⟩
    | none =>
      rw [hr] at h
      by_cases hc : c = '_'
      · simp only [hc, if_true] at h
        cases h
        exact ⟨cs, by rw [hc]; rfl, (beforeLast_none cs).mp hr⟩
      · simp [hc] at h

theorem sampleOf_isSome_iff (q : String) : (sampleOf q).isSome = true ↔ '_' ∈ q.toList := by
  rw [sampleOf, Option.isSome_map, Option.isSome_iff_ne_none, ne_eq, beforeLast_none, Decidable.not_not]

/-! ### uc: interning identifiers, counting in an association list -/

def internList (ids : List String) (x : String) : List String := if x ∈ ids then ids else ids ++ [x]

theorem nodup_concat {α : Type} (l : List α) (a : α) (h : l.Nodup) (ha : a ∉ l) : (l ++ [a]).Nodup := by
  rw [List.nodup_append]
  exact ⟨h, List.nodup_cons.mpr ⟨List.not_mem_nil, List.nodup_nil⟩,
    fun x hx y hy e => ha (List.mem_singleton.mp hy ▸ e ▸ hx)⟩

theorem idxOf_append_new (ids : List String) (x : String) (h : x ∉ ids) : (ids ++ [x]).idxOf x = ids.length := by
  rw [List.idxOf_append, if_neg h, List.idxOf_cons_self, Nat.zero_add]

theorem idxOf_append_old (ids : List String) (x y : String) (h : y ∈ ids) : (ids ++ [x]).idxOf y = ids.idxOf y := by
  rw [List.idxOf_append, if_pos h]

theorem intern_eq (ids : List String) (x : String) :
    intern ids x = ((internList ids x).idxOf x, internList ids x) := by
  by_cases h : x ∈ ids
  · simp [intern, internList, h]
  · simp [intern, internList, h, idxOf_append_new ids x h]

theorem mem_internList (ids : List String) (x y : String) : y ∈ internList ids x ↔ y ∈ ids ∨ y = x := by
  by_cases h : x ∈ ids
  · simp only [internList, h, if_true]
    constructor
    · exact Or.inl
    · rintro (h' | rfl)
      · exact h'
      · exact h
  · simp [internList, h]

theorem internList_of_mem {ids : List String} {x : String} (h : x ∈ ids) : internList ids x = ids := if_pos h

theorem self_mem_internList (ids : List String) (x : String) : x ∈ internList ids x :=
  (mem_internList ids x x).mpr (Or.inr rfl)

theorem internList_nodup (ids : List String) (x : String) (h : ids.Nodup) : (internList ids x).Nodup := by
  unfold internList
  split
  · exact h
  · exact nodup_concat ids x h ‹_›

theorem idxOf_internList (ids : List String) (x y : String) (h : y ∈ ids) :
    (internList ids x).idxOf y = ids.idxOf y := by
  by_cases hx : x ∈ ids
  · simp [internList, hx]
  · simp [internList, hx, idxOf_append_old ids x y h]

theorem internList_length (ids : List String) (x : String) : ids.length ≤ (internList ids x).length := by
  by_cases hx : x ∈ ids <;> simp [internList, hx]

theorem idxOf_internList_new (ids : List String) (x : String) (h : x ∉ ids) :
    (internList ids x).idxOf x = ids.length := by
  simp [internList, h, idxOf_append_new ids x h]

theorem getD_lookup_cons (a : Coord) (v : Rat) (l : Dict) (k : Coord) :
    (((a, v) :: l).lookup k).getD 0 = if k = a then v else (l.lookup k).getD 0 := by
  rw [List.lookup_cons]
  by_cases h : k = a
  · rw [if_pos h, beq_iff_eq.mpr h]; rfl
  · rw [if_neg h, beq_eq_false_iff_ne.mpr h]

theorem lookup_bump (d : Dict) (k k' : Coord) :
    ((bump d k).lookup k').getD 0 = (d.lookup k').getD 0 + (if k' = k then 1 else 0) := by
  induction d with
  | nil =>
    rw [bump, getD_lookup_cons, List.lookup_nil]
    exact (Rat.zero_add _).symm
  | cons e rest ih =>
    obtain ⟨ek, ev⟩ := e
    rw [bump]
    split
    · rename_i he
      subst he
      rw [getD_lookup_cons, getD_lookup_cons]
      split
      · rfl
      · exact (Rat.add_zero _).symm
    · rename_i he
      rw [getD_lookup_cons, getD_lookup_cons, ih]
      split
      · rename_i h
        rw [if_neg fun e => he (h.symm.trans e)]
        exact (Rat.add_zero _).symm
      · rfl

theorem bump_keys (d : Dict) (k : Coord) :
    (bump d k).map (·.1) = if k ∈ d.map (·.1) then d.map (·.1) else d.map (·.1) ++ [k] := by
  induction d with
  | nil => rfl
  | cons e rest ih =>
    rw [bump]
    by_cases he : e.1 = k
    · rw [if_pos he, if_pos (by rw [List.map_cons, he]; exact List.mem_cons_self)]; rfl
    · rw [if_neg he, List.map_cons, ih, List.map_cons]
      by_cases hk : k ∈ rest.map (·.1)
      · rw [if_pos hk, if_pos (List.mem_cons_of_mem _ hk)]
      · rw [if_neg hk, if_neg fun h => (List.mem_cons.mp h).elim (fun h => he h.symm) hk]; rfl

theorem bump_keys_nodup (d : Dict) (k : Coord) (h : (d.map (·.1)).Nodup) : ((bump d k).map (·.1)).Nodup := by
  rw [bump_keys]
  split
  · exact h
  · exact nodup_concat _ k h ‹_›

theorem mem_bump_key (d : Dict) (k : Coord) (e : Coord × Rat) (he : e ∈ bump d k) :
    e.1 = k ∨ e.1 ∈ d.map (·.1) := by
  have : e.1 ∈ (bump d k).map (·.1) := List.mem_map_of_mem he
  rw [bump_keys] at this
  split at this
  · exact Or.inr this
  · rcases List.mem_append.mp this with h | h
    · exact Or.inr h
    · left; simpa using h

theorem lookup_none_of_range (d : Dict) (n m : Nat) (k : Coord)
    (hr : ∀ e ∈ d, e.1.1 < n ∧ e.1.2 < m) (hk : n ≤ k.1 ∨ m ≤ k.2) : d.lookup k = none := by
  apply lookup_none_of_not_mem
  intro hmem
  rw [List.mem_map] at hmem
  obtain ⟨e, he, rfl⟩ := hmem
  have := hr e he
  exact hk.elim (Nat.not_le_of_gt this.1) (Nat.not_le_of_gt this.2)

/-- number of H/S records with seed `o` whose query label belongs to sample `s` -/
def ucCnt (recs : List UcRec) (o s : String) : Nat :=
  (recs.filter (fun r => isHS r && r.seed == o && sampleOf r.query == some s)).length

theorem ucCnt_append_one (done : List UcRec) (r : UcRec) (o s : String) :
    ucCnt (done ++ [r]) o s =
      ucCnt done o s + (if isHS r && r.seed == o && sampleOf r.query == some s then 1 else 0) := by
  simp only [ucCnt, List.filter_append, List.length_append, List.filter_cons, List.filter_nil]
  split <;> rfl

theorem ucCnt_zero_of_seed (done : List UcRec) (o s : String) (h : ∀ r ∈ done, r.seed ≠ o) : ucCnt done o s = 0 := by
  simp only [ucCnt, List.length_eq_zero_iff, List.filter_eq_nil_iff]
  intro r hr
  simp [h r hr]

theorem ucCnt_zero_of_sample (done : List UcRec) (o s : String)
    (h : ∀ r ∈ done, isHS r = true → sampleOf r.query ≠ some s) : ucCnt done o s = 0 := by
  simp only [ucCnt, List.length_eq_zero_iff, List.filter_eq_nil_iff]
  intro r hr
  by_cases hh : isHS r = true
  · simp [h r hr hh]
  · simp [hh]

structure UcInv (st : UcState) (done : List UcRec) : Prop where
  nodupO : st.obsIds.Nodup
  nodupS : st.sampIds.Nodup
  seeds : ∀ o, o ∈ st.obsIds ↔ ∃ r ∈ done, r.seed = o
  samples : ∀ s, s ∈ st.sampIds ↔ ∃ r ∈ done, isHS r = true ∧ sampleOf r.query = some s
  keys : (st.data.map (·.1)).Nodup
  range : ∀ e ∈ st.data, e.1.1 < st.obsIds.length ∧ e.1.2 < st.sampIds.length
  count : ∀ o ∈ st.obsIds, ∀ s ∈ st.sampIds,
    (st.data.lookup (st.obsIds.idxOf o, st.sampIds.idxOf s)).getD 0 = (ucCnt done o s : Rat)

theorem ucInv_init : UcInv {} [] :=
  { nodupO := List.nodup_nil, nodupS := List.nodup_nil,
    seeds := (by intro o; simp), samples := (by intro s; simp),
    keys := List.nodup_nil, range := (by intro e he; cases he),
    count := (by intro o ho; cases ho) }

/-- the value looked up for (o, s) in the old dictionary, in the index space of the new lists -/
theorem lookup_stable (st : UcState) (done : List UcRec) (inv : UcInv st done) (x y o s : String)
    (ho : o ∈ internList st.obsIds x) (hs : s ∈ internList st.sampIds y) :
    (st.data.lookup ((internList st.obsIds x).idxOf o, (internList st.sampIds y).idxOf s)).getD 0
      = (ucCnt done o s : Rat) := by
  by_cases h1 : o ∈ st.obsIds
  · by_cases h2 : s ∈ st.sampIds
    · rw [idxOf_internList _ x o h1, idxOf_internList _ y s h2]
      exact inv.count o h1 s h2
    · -- a new sample: its column is beyond every stored key, and no record counts for it
      obtain rfl : s = y := ((mem_internList _ _ _).mp hs).resolve_left h2
      rw [idxOf_internList_new _ s h2,
        lookup_none_of_range st.data _ _ _ inv.range (Or.inr (Nat.le_refl _)),
        ucCnt_zero_of_sample done o s fun r hr hh e => h2 ((inv.samples s).mpr ⟨r, hr, hh, e⟩)]
      rfl
  ·
    obtain rfl : o = x := ((mem_internList _ _ _).mp ho).resolve_left h1
    rw [idxOf_internList_new _ o h1,
      lookup_none_of_range st.data _ _ _ inv.range (Or.inl (Nat.le_refl _)),
      ucCnt_zero_of_seed done o s fun r hr e => h1 ((inv.seeds o).mpr ⟨r, hr, e⟩)]
    rfl

theorem exists_mem_append_singleton {α : Type} (l : List α) (a : α) (P : α → Prop) :
    (∃ x ∈ l ++ [a], P x) ↔ (∃ x ∈ l, P x) ∨ P a := by
  simp only [List.mem_append, List.mem_singleton, or_and_right, exists_or, exists_eq_left]

theorem ucStep_hs (st : UcState) (r : UcRec) (s : String) (h : isHS r = true) (hs : sampleOf r.query = some s) :
    ucStep st r = .ok
      { obsIds := internList st.obsIds r.seed, sampIds := internList st.sampIds s,
        data := bump st.data ((internList st.obsIds r.seed).idxOf r.seed, (internList st.sampIds s).idxOf s) } := by
  simp only [ucStep, intern_eq, h, hs, if_true]

theorem ucStep_other (st : UcState) (r : UcRec) (h : isHS r = false) :
    ucStep st r = .ok { st with obsIds := internList st.obsIds r.seed } := by
  simp only [ucStep, intern_eq, h, Bool.false_eq_true, if_false]

theorem ucStep_err (st : UcState) (r : UcRec) (h1 : isHS r = true) (h2 : sampleOf r.query = none) :
    ucStep st r = .error .value := by
  simp [ucStep, h1, h2]

theorem ucStep_inv (st : UcState) (done : List UcRec) (r : UcRec) (inv : UcInv st done)
    (hq : isHS r = true → (sampleOf r.query).isSome = true) :
    ∃ st', ucStep st r = .ok st' ∧ UcInv st' (done ++ [r]) := by
  have hseeds : ∀ o, o ∈ internList st.obsIds r.seed ↔ ∃ r' ∈ done ++ [r], r'.seed = o := fun o => by
    rw [mem_internList, inv.seeds, exists_mem_append_singleton, eq_comm (a := o)]
  have hlo := internList_length st.obsIds r.seed
  cases hh : isHS r with
  | false =>
    refine ⟨_, ucStep_other st r hh,
      { nodupO := internList_nodup _ _ inv.nodupO, nodupS := inv.nodupS, seeds := hseeds,
        samples := fun s => ?_, keys := inv.keys,
        range := fun e he => ⟨Nat.lt_of_lt_of_le (inv.range e he).1 hlo, (inv.range e he).2⟩,
        count := fun o ho s hs => ?_ }⟩
    · rw [inv.samples, exists_mem_append_singleton, hh]
      exact (or_iff_left fun h => Bool.noConfusion h.1).symm
    · have := lookup_stable st done inv r.seed s o s ho (self_mem_internList _ s)
      rw [internList_of_mem hs] at this
      rw [this, ucCnt_append_one, hh]; rfl
  | true =>
    obtain ⟨s0, hs0⟩ := Option.isSome_iff_exists.mp (hq hh)
    have hls := internList_length st.sampIds s0
    refine ⟨_, ucStep_hs st r s0 hh hs0,
      { nodupO := internList_nodup _ _ inv.nodupO, nodupS := internList_nodup _ _ inv.nodupS,
        seeds := hseeds, samples := fun s => ?_, keys := bump_keys_nodup _ _ inv.keys,
        range := fun e he => ?_, count := fun o ho s hs => ?_ }⟩
    · rw [mem_internList, inv.samples, exists_mem_append_singleton, hh, hs0, Option.some.injEq,
        eq_comm (a := s)]
      exact or_congr_right ⟨fun h => ⟨rfl, h⟩, fun h => h.2⟩
    · rcases mem_bump_key _ _ e he with h | h
      · rw [h]
        exact ⟨List.idxOf_lt_length_iff.mpr (self_mem_internList _ _),
          List.idxOf_lt_length_iff.mpr (self_mem_internList _ _)⟩
      · obtain ⟨e', he', hk⟩ := List.mem_map.mp h
        rw [← hk]
        exact ⟨Nat.lt_of_lt_of_le (inv.range e' he').1 hlo, Nat.lt_of_lt_of_le (inv.range e' he').2 hls⟩
    · rw [lookup_bump, lookup_stable st done inv r.seed s0 o s ho hs, ucCnt_append_one, Rat.natCast_add,
        hh, hs0, Bool.true_and, apply_ite Nat.cast]
      -- the bumped position is that of (o, s) exactly when the record counts for (o, s)
      refine congrArg _ (ite_cond_congr (propext ⟨fun e => ?_, fun e => ?_⟩))
      · rw [idxOf_inj _ o r.seed ho (Prod.mk.inj e).1, idxOf_inj _ s s0 hs (Prod.mk.inj e).2]
        exact Bool.and_eq_true_iff.mpr ⟨beq_self_eq_true _, beq_self_eq_true _⟩
      · rw [Bool.and_eq_true, beq_iff_eq, beq_iff_eq, Option.some.injEq] at e
        rw [e.1, e.2]

theorem ucFold_inv (rs : List UcRec) : ∀ (st : UcState) (done : List UcRec), UcInv st done →
    (∀ r ∈ rs, isHS r = true → (sampleOf r.query).isSome = true) →
    ∃ st', ucFold st rs = .ok st' ∧ UcInv st' (done ++ rs) := by
  induction rs with
  | nil => intro st done inv _; exact ⟨st, rfl, by simpa using inv⟩
  | cons r rs ih =>
    intro st done inv hq
    obtain ⟨st1, h1, inv1⟩ := ucStep_inv st done r inv (hq r (List.mem_cons_self))
    obtain ⟨st2, h2, inv2⟩ := ih st1 (done ++ [r]) inv1 (fun r' hr' => hq r' (List.mem_cons_of_mem _ hr'))
    refine ⟨st2, ?_, by simpa using inv2⟩
    simp only [ucFold, h1, bind, Except.bind, h2]

theorem ucFold_err (rs : List UcRec) : ∀ st : UcState,
    (∃ r ∈ rs, isHS r = true ∧ sampleOf r.query = none) → ∃ e, ucFold st rs = .error e := by
  induction rs with
  | nil => intro st h; obtain ⟨r, hr, _⟩ := h; cases hr
  | cons r rs ih =>
    intro st h
    simp only [ucFold]
    cases hs : ucStep st r with
    | error e => exact ⟨e, rfl⟩
    | ok st1 =>
      obtain ⟨r', hr', h1, h2⟩ := h
      rcases List.mem_cons.mp hr' with e | hmem
      · subst e
        rw [ucStep_err st r' h1 h2] at hs; cases hs
      · obtain ⟨e, he⟩ := ih st1 ⟨r', hmem, h1, h2⟩
        exact ⟨e, by simp only [bind, Except.bind, he]⟩

/-! ### uc: renaming the seeds through a fasta map -/

theorem mapM_option_none (f : String → Option String) (l : List String)
    (h : ¬ ∀ x ∈ l, (f x).isSome = true) : l.mapM f = none := by
  induction l with
  | nil => exact absurd (fun _ hx => nomatch hx) h
  | cons a as ih =>
    rw [List.mapM_cons]
    cases hfa : f a with
    | none => rfl
    | some y =>
      rw [ih fun h' => h fun x hx => ?_]; rfl
      rcases List.mem_cons.mp hx with rfl | hx
      · rw [hfa]; rfl
      · exact h' x hx

theorem mapM_option_some (f : String → Option String) (l : List String) (h : ∀ x ∈ l, (f x).isSome = true) :
    l.mapM f = some (l.map (fun x => (f x).getD "")) := by
  induction l with
  | nil => rfl
  | cons a as ih =>
    rw [List.mapM_cons, ih (fun x hx => h x (List.mem_cons_of_mem _ hx))]
    obtain ⟨y, hy⟩ := Option.isSome_iff_exists.mp (h a (List.mem_cons_self))
    simp [hy]

theorem lookupBy_map_inj {β : Type} (g : String → String) (l : List String) (xs : List β) (a : String)
    (hinj : ∀ x ∈ l, ∀ y ∈ l, g x = g y → x = y) (ha : a ∈ l) :
    lookupBy (l.map g) xs (g a) = lookupBy l xs a := by
  induction l generalizing xs with
  | nil => cases ha
  | cons b bs ih =>
    cases xs with
    | nil => simp [lookupBy]
    | cons x xs' =>
      simp only [List.map_cons, lookupBy]
      by_cases hb : b = a
      · subst hb; simp
      · have hne : ¬ g b = g a := fun e => hb (hinj b (List.mem_cons_self) a ha e)
        have ha' : a ∈ bs := by
          rcases List.mem_cons.mp ha with e | e
          · exact absurd e.symm hb
          · exact e
        simp only [hb, hne, if_false]
        exact ih xs' (fun x hx y hy => hinj x (List.mem_cons_of_mem _ hx) y (List.mem_cons_of_mem _ hy)) ha'

theorem labelsOk_some (recs : List UcRec) : labelsOk (fun x => some x) recs = true := by
  simp only [labelsOk, Option.isSome_some, List.all_eq_true, Bool.and_eq_true, Bool.or_eq_true,
    bne_iff_ne, ne_eq, beq_iff_eq]
  refine ⟨fun _ _ => trivial, ?_⟩
  intro r1 _ r2 _
  by_cases h : r1.seed = r2.seed
  · exact Or.inr h
  · left; intro e; exact h (Option.some.inj e)

theorem labelsOk_iff (label : String → Option String) (recs : List UcRec) (ids : List String) (hn : ids.Nodup)
    (hseeds : ∀ o, o ∈ ids ↔ ∃ r ∈ recs, r.seed = o) :
    labelsOk label recs = true ↔
      (∀ o ∈ ids, (label o).isSome = true) ∧ (ids.map (fun o => (label o).getD "")).Nodup := by
  have hmem : ∀ r ∈ recs, r.seed ∈ ids := fun r hr => (hseeds _).mpr ⟨r, hr, rfl⟩
  simp only [labelsOk, Bool.and_eq_true, List.all_eq_true, Bool.or_eq_true, bne_iff_ne, ne_eq, beq_iff_eq]
  constructor
  · rintro ⟨h1, h2⟩
    refine ⟨fun o ho => ?_, nodup_map_of_injOn _ ids hn fun a ha b hb e => ?_⟩
    · obtain ⟨r, hr, rfl⟩ := (hseeds o).mp ho
      exact h1 r hr
    · obtain ⟨r1, hr1, rfl⟩ := (hseeds a).mp ha
      obtain ⟨r2, hr2, rfl⟩ := (hseeds b).mp hb
      refine (h2 r1 hr1 r2 hr2).resolve_left fun hne => hne ?_
      obtain ⟨y1, hy1⟩ := Option.isSome_iff_exists.mp (h1 r1 hr1)
      obtain ⟨y2, hy2⟩ := Option.isSome_iff_exists.mp (h1 r2 hr2)
      rw [hy1, hy2] at e ⊢
      exact congrArg some e
  · rintro ⟨hall, hnd⟩
    refine ⟨fun r hr => hall _ (hmem r hr), fun r1 hr1 r2 hr2 => ?_⟩
    by_cases hl : label r1.seed = label r2.seed
    · exact Or.inr (inj_of_nodup_map _ ids hnd _ (hmem r1 hr1) _ (hmem r2 hr2) (by simp only [hl]))
    · exact Or.inl hl

section
open Codec

theorem chk_true (c : String) : chk c true = none := Biom.chk_true c

end

end Biom.C17
