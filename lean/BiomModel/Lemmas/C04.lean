/-
  Lemmas for C04 (and, through it, C01): the hypotheses of the theorems (`SrcWF`, the scipy contract
  `Views`); stored count = non-zero count, also under transposition; what the per-category formatters
  write on the domain and that it stands for the values; the tree `written` that `to_hdf5` produces,
  group by group, and what the spec-only readers find in it.
-/
import BiomModel.C04
import BiomModel.Lemmas.Layer
import Mathlib.Data.List.Nodup   -- also brings `DecidableEq (Except ε α)`, which the evaluated examples of Props/C01 need

set_option linter.unusedSectionVars false

namespace Biom.Hdf5
open Biom Biom.C04

variable {α δ : Type}

/-! ### hypotheses of the theorems -/

structure SrcWF (t : Src α) : Prop where
  rowsLen : t.rows.length = t.obs.length
  rowLen : ∀ r ∈ t.rows, r.length = t.samp.length
  omdLen : ∀ m, t.omd = some m → m.length = t.obs.length
  smdLen : ∀ m, t.smd = some m → m.length = t.samp.length
  /-- group metadata of an axis is a dict: distinct keys -/
  ogmdKeys : ((gmdAll t.ogmd t.ogmdBare).map (·.1)).Nodup
  sgmdKeys : ((gmdAll t.sgmd t.sgmdBare).map (·.1)).Nodup

/-- The scipy contract for the two layouts `to_hdf5` obtains from `asformat('csr')` /
`asformat('csc')` after `nnz` has eliminated stored zeros: each is well formed, has the table's
dimensions and dense content (`D` resp. `Dᵀ`) and stores no zero.  Index order inside a vector is
free.  (That both store the same number of entries is derived: `views_sameCount`.) -/
structure Views [Zero α] [DecidableEq α] (t : Src α) (csr csc : CS α) : Prop where
  csrWF : csr.WF
  csrMajor : csr.nMajor = t.obs.length
  csrMinor : csr.nMinor = t.samp.length
  csrDense : csr.toDense = t.rows
  csrNZ : csr.NoStoredZeros
  cscWF : csc.WF
  cscMajor : csc.nMajor = t.samp.length
  cscMinor : csc.nMinor = t.obs.length
  cscDense : csc.toDense = transposeGrid t.samp.length t.rows
  cscNZ : csc.NoStoredZeros

/-! ### list facts -/

theorem mapM_ok_map {β γ : Type} (f : β → Except Err γ) (g : β → γ) (l : List β)
    (h : ∀ x ∈ l, f x = .ok (g x)) : l.mapM f = .ok (l.map g) := by
  induction l with
  | nil => rfl
  | cons x xs ih =>
    rw [List.mapM_cons, h x (List.mem_cons_self), ih (fun y hy => h y (List.mem_cons_of_mem _ hy))]
    rfl

theorem mapM_map_inv {β γ : Type} (f : γ → Except Err β) (g : β → γ) (l : List β)
    (h : ∀ x ∈ l, f (g x) = .ok x) : (l.map g).mapM f = .ok l := by
  rw [List.mapM_map]; exact (mapM_ok_map _ id l h).trans (congrArg _ (List.map_id l))

theorem all_of_all {β : Type} {p q : β → Bool} (hpq : ∀ v, p v = true → q v = true) {l : List β}
    (h : l.all p = true) : l.all q = true :=
  List.all_eq_true.mpr fun x hx => hpq x (List.all_eq_true.mp h x hx)

theorem not_any_of_all {β : Type} {p q : β → Bool} (hpq : ∀ v, p v = true → q v = false) {l : List β}
    (h : l.all p = true) : ¬ l.any q = true := fun hq => by
  obtain ⟨x, hx, hqx⟩ := List.any_eq_true.mp hq
  rw [hpq x (List.all_eq_true.mp h x hx)] at hqx
  exact Bool.false_ne_true hqx

theorem not_all_of_all {β : Type} {p q : β → Bool} (hpq : ∀ v, p v = true → q v = false) {l : List β}
    (hne : l ≠ []) (h : l.all p = true) : ¬ l.all q = true := by
  cases l with
  | nil => exact absurd rfl hne
  | cons x xs =>
    rw [List.all_cons, Bool.and_eq_true] at h
    rw [List.all_cons, hpq x h.1]; exact Bool.false_ne_true

theorem any_of_all {β : Type} {p : β → Bool} {l : List β} (hne : l ≠ []) (h : l.all p = true) :
    l.any p = true := by
  cases l with
  | nil => exact absurd rfl hne
  | cons x xs => rw [List.all_cons, Bool.and_eq_true] at h; rw [List.any_cons, h.1]; rfl

theorem le_maxL {l : List Nat} {x : Nat} (h : x ∈ l) : x ≤ maxL l := by
  induction l with
  | nil => cases h
  | cons y ys ih =>
    rcases List.mem_cons.mp h with rfl | h'
    · exact Nat.le_max_left _ _
    · exact Nat.le_trans (ih h') (Nat.le_max_right _ _)

theorem lookup_map_nodup {β γ : Type} (f : β → String) (g : β → γ) (l : List β)
    (hnd : (l.map f).Nodup) (k : β) (hk : k ∈ l) :
    (l.map (fun x => (f x, g x))).lookup (f k) = some (g k) :=
  lookup_of_mem_nodup _ (by rwa [List.map_map]) (f k, g k) (List.mem_map_of_mem hk)

/-! ### cells -/

theorem cellStr_strCell (c : Utf8) (hc : c.RT) (s : String) : cellStr (α := α) c (strCell c s) = .ok s := hc.rt s

theorem mapM_cellStr (c : Utf8) (hc : c.RT) (l : List String) :
    (l.map (strCell (α := α) c)).mapM (cellStr c) = .ok l :=
  mapM_map_inv _ _ l fun s _ => cellStr_strCell c hc s

theorem cellNat_natCell (n : Nat) : cellNat (α := α) (natCell n) = .ok n := by
  simp [cellNat, natCell]

theorem mapM_cellNat (l : List Nat) : (l.map (natCell (α := α))).mapM cellNat = .ok l :=
  mapM_map_inv _ _ l fun n _ => cellNat_natCell n

theorem mapM_cellVal (l : List α) : (l.map Cell.f).mapM cellVal = .ok l :=
  mapM_map_inv _ _ l fun _ _ => rfl

theorem specIds_strDs (c : Utf8) (hc : c.RT) (ids : List String) :
    specIds (α := α) c (some (strDs c ids)) = .ok ids := mapM_cellStr c hc ids

/-- transposing twice gives the grid back (rectangular grids) -/
theorem transpose_transpose (D : List (List α)) (n m : Nat) (hn : D.length = n)
    (hm : ∀ r ∈ D, r.length = m) : transposeGrid n (transposeGrid m D) = D :=
  Layer.transposeGrid_transposeGrid hn hm

/-! ### stored count = number of non-zero cells; transposition keeps it -/
section nnz
variable [Zero α] [DecidableEq α]

theorem nnzGrid_eq_sum (rows : List (List α)) :
    nnzGrid rows = (rows.map (fun r => r.countP (fun v => v ≠ 0))).sum := rfl

/-- For a well-formed layout without stored zeros the number of stored entries is the number of
non-zero cells of its dense content. -/
theorem stored_eq_nnz {cs : CS α} (h : cs.WF) (hz : cs.NoStoredZeros) :
    cs.data.length = nnzGrid cs.toDense := by
  -- row `i` has as many non-zero cells as stored entries, `indptr[i+1] - indptr[i]`; these add up to `indptr[nMajor]`
  have hrow : ∀ i ∈ List.range cs.nMajor,
      (CS.denseVec cs.nMinor (cs.slice i)).countP (fun v => decide (v ≠ 0)) =
        cs.indptr.getD (i + 1) 0 - cs.indptr.getD i 0 :=
    fun i hi => (countP_denseVec _ _ (h.distinct i (List.mem_range.mp hi)) (slice_inRange cs h i)
      (slice_nonzero cs hz i)).trans (slice_length cs h i (List.mem_range.mp hi))
  rw [nnzGrid_eq_sum, CS.toDense, List.map_map, Function.comp_def, List.map_congr_left hrow,
    (sum_range_diff (cs.indptr.getD · 0) cs.nMajor h.ptrMono).1, ptr_zero cs h, h.ptrLast]; rfl

theorem nnz_zipWith_cons (r : List α) (T : List (List α)) (h : r.length = T.length) :
    nnzGrid (List.zipWith (fun a col => a :: col) r T) = r.countP (fun v => decide (v ≠ 0)) + nnzGrid T := by
  induction r generalizing T with
  | nil => cases T with
    | nil => rfl
    | cons c T => cases h
  | cons a r ih =>
    cases T with
    | nil => cases h
    | cons c T =>
      simp only [nnzGrid_eq_sum, List.zipWith_cons_cons, List.map_cons, List.sum_cons, List.countP_cons] at ih ⊢
      rw [ih T (Nat.succ.inj h)]
      omega

/-- transposition keeps the number of non-zero cells -/
theorem nnz_transpose (m : Nat) (D : List (List α)) (hm : ∀ r ∈ D, r.length = m) :
    nnzGrid (transposeGrid m D) = nnzGrid D := by
  induction D with
  | nil => simp [transposeGrid, nnzGrid_eq_sum, Function.comp_def, colAt, List.map_const', List.sum_replicate_nat]
  | cons r D ih =>
    have hr := hm r List.mem_cons_self
    rw [transposeGrid_cons m r D hr,
      nnz_zipWith_cons r _ (hr.trans (transposeGrid_length m D).symm),
      ih fun r hr => hm r (List.mem_cons_of_mem _ hr)]
    rfl

/-- both layouts store the same number of entries (derived, not assumed) -/
theorem views_sameCount (t : Src α) (csr csc : CS α) (hw : SrcWF t) (hv : Views t csr csc) :
    csc.data.length = csr.data.length := by
  rw [stored_eq_nnz hv.cscWF hv.cscNZ, stored_eq_nnz hv.csrWF hv.csrNZ, hv.cscDense, hv.csrDense,
    nnz_transpose _ _ hw.rowLen]

end nnz

/-! ### names without '/' are written unescaped -/

theorem sanL_of_no_slash (l : List Char) (h : '/' ∉ l) : sanL l = l := by
  induction l with
  | nil => rfl
  | cons c cs ih =>
    rw [List.mem_cons, not_or] at h
    rw [sanL, if_neg (Ne.symm h.1), ih h.2]

theorem sanitize_of_no_slash (k : String) (h : '/' ∉ k.toList) : sanitize k = k := by
  rw [sanitize, sanL_of_no_slash _ h, String.ofList_toList]

theorem special_sanitize (k : String) (h : isSpecial k = true) : sanitize k = k := by
  apply sanitize_of_no_slash
  simp only [isSpecial, Bool.or_eq_true, beq_iff_eq] at h
  rcases h with ((rfl | rfl) | rfl) | rfl <;> decide +kernel

/-! ### the per-category formatter on the domain -/

theorem MdVal.isAtom_eq (v : MdVal α) : v.isAtom = (v.isText || v.isInt || v.isFloat || v.isBool) := by
  cases v <;> rfl

theorem MdVal.not_isNum_of_isText (v : MdVal α) (h : v.isText = true) : v.isNum = false := by
  cases v with
  | text _ => rfl
  | _ => exact absurd h Bool.false_ne_true

theorem MdVal.not_isNum_of_isList (v : MdVal α) (h : v.isList = true) : v.isNum = false := by
  cases v with
  | list _ => rfl
  | _ => exact absurd h Bool.false_ne_true

theorem MdVal.not_isText_of_isList (v : MdVal α) (h : v.isList = true) : v.isText = false := by
  cases v with
  | list _ => rfl
  | _ => exact absurd h Bool.false_ne_true

theorem MdVal.not_isList_of_isAtom (v : MdVal α) (h : v.isAtom = true) : v.isList = false := by
  cases v with
  | list _ => exact absurd h Bool.false_ne_true
  | _ => rfl

theorem noneToText_of_isAtom (v : MdVal α) (h : v.isAtom = true) : noneToText v = v := by
  cases v with
  | none => exact absurd h Bool.false_ne_true
  | _ => rfl

theorem goodList_elems {v : MdVal α} (h : goodList v = true) :
    ∃ l, v = .list l ∧ l ≠ [] ∧ ∀ s ∈ l, s ≠ "" := by
  cases v with
  | list l =>
    simp only [goodList, Bool.and_eq_true, Bool.not_eq_true', List.isEmpty_eq_false_iff, List.all_eq_true,
      bne_iff_ne] at h
    exact ⟨l, rfl, h.1, h.2⟩
  | _ => exact absurd h Bool.false_ne_true

theorem isList_of_goodList (v : MdVal α) (h : goodList v = true) : v.isList = true := by
  obtain ⟨l, rfl, _⟩ := goodList_elems h; rfl

/-- the element kind `general_formatter` gives the dataset of a column of atoms of one kind -/
def atomKind (col : List (MdVal α)) : Kind :=
  if col.all MdVal.isText then .vlenStr else if col.all MdVal.isInt then .i64
  else if col.all MdVal.isFloat then .f64 else .bool

/-- `colDomain` of a category whose name is not reserved -/
def atomDomain (col : List (MdVal α)) : Bool :=
  col.all MdVal.isText || col.all MdVal.isInt || col.all MdVal.isFloat || col.all MdVal.isBool

theorem atomDomain_atoms (col : List (MdVal α)) (h : atomDomain col = true) : col.all MdVal.isAtom = true := by
  simp only [atomDomain, Bool.or_eq_true] at h
  rcases h with ((h | h) | h) | h <;>
    exact all_of_all (fun v hv => by simp only [v.isAtom_eq, hv, Bool.or_true, Bool.true_or]) h

theorem map_noneToText_atoms (col : List (MdVal α)) (h : col.all MdVal.isAtom = true) :
    col.map noneToText = col :=
  (List.map_congr_left fun v hv => noneToText_of_isAtom v (List.all_eq_true.mp h v hv)).trans (List.map_id' col)

theorem generalFmt_atoms (c : Utf8) (k : String) (col : List (MdVal α)) (hne : col ≠ [])
    (hd : atomDomain col = true) :
    generalFmt c k col =
      .ok (sanitize k, { kind := atomKind col, data := .d1 (col.filterMap (scalarCell c)) }) := by
  have hat := atomDomain_atoms col hd
  have hl : ¬ col.all MdVal.isList = true := not_all_of_all MdVal.not_isList_of_isAtom hne hat
  unfold generalFmt atomKind
  rw [map_noneToText_atoms col hat]
  by_cases h1 : col.all MdVal.isText = true
  · simp only [if_pos h1]
  · by_cases h2 : col.all MdVal.isInt = true
    · simp only [if_neg h1, if_neg hl, if_pos h2]
    · by_cases h3 : col.all MdVal.isFloat = true
      · simp only [if_neg h1, if_neg hl, if_neg h2, if_pos h3]
      · -- no other tag is left in the domain
        have h4 : col.all MdVal.isBool = true := by
          simpa only [atomDomain, h1, h2, h3, Bool.false_or, Bool.or_eq_true, false_or] using hd
        simp only [if_neg h1, if_neg hl, if_neg h2, if_neg h3, if_pos h4]

theorem listLens_lists (col : List (MdVal α)) (h : col.all MdVal.isList = true) :
    (listLens col).length = col.length := by
  induction col with
  | nil => rfl
  | cons x xs ih =>
    rw [List.all_cons, Bool.and_eq_true] at h
    cases x with
    | list l => rw [listLens, List.length_cons, List.length_cons, ih h.2]
    | _ => exact absurd h.1 Bool.false_ne_true

/-- the 2-D dataset the hierarchical formatter lays out: one row per value, padded to the longest list -/
def listDs (c : Utf8) (col : List (MdVal α)) : DSet α :=
  { kind := .vlenStr, data := .d2 (maxL (listLens col)) (col.map (listRow c (maxL (listLens col)))) }

theorem listLens_not_isEmpty (col : List (MdVal α)) (hne : col ≠ []) (h : col.all MdVal.isList = true) :
    ¬ (listLens col).isEmpty = true := by
  rw [List.isEmpty_iff, ← List.length_eq_zero_iff, listLens_lists col h, List.length_eq_zero_iff]
  exact hne

theorem listFmt_lists (c : Utf8) (k : String) (col : List (MdVal α)) (hne : col ≠ [])
    (hd : col.all MdVal.isList = true) : listFmt c k col = .ok (k, listDs c col) := by
  have h1 := not_any_of_all MdVal.not_isNum_of_isList hd
  have h2 := not_any_of_all MdVal.not_isText_of_isList hd
  have h3 := listLens_not_isEmpty col hne hd
  unfold listFmt
  simp only [if_neg h1, if_neg h2, if_neg h3]
  rfl

theorem splitCol_lists (col : List (MdVal α)) (h : col.all MdVal.isText = true) :
    (splitCol col).all MdVal.isList = true := by
  rw [List.all_eq_true] at h ⊢
  intro v hv
  obtain ⟨x, hx, rfl⟩ := List.mem_map.mp hv
  cases x with
  | text s => rfl
  | _ => exact absurd (h _ hx) Bool.false_ne_true

/-- flat texts under `taxonomy`: split, then laid out like lists -/
theorem listFmt_flat (c : Utf8) (col : List (MdVal α)) (hne : col ≠ [])
    (hd : col.all MdVal.isText = true) :
    listFmt c "taxonomy" col = .ok ("taxonomy", listDs c (splitCol col)) := by
  have h1 := not_any_of_all MdVal.not_isNum_of_isText hd
  have h2 : col.any MdVal.isText = true := any_of_all hne hd
  have h3 := listLens_not_isEmpty _ (by rwa [splitCol, Ne, List.map_eq_nil_iff]) (splitCol_lists col hd)
  unfold listFmt
  simp only [if_neg h1, if_pos h2, hd, beq_self_eq_true, Bool.and_self, if_true, if_neg h3]
  rfl

/-- the column the hierarchical formatter lays out: flat texts are split first -/
def taxCol (col : List (MdVal α)) : List (MdVal α) :=
  if col.any MdVal.isText then splitCol col else col

/-- the dataset written for a category of the domain -/
def fmtDs (c : Utf8) (k : String) (col : List (MdVal α)) : DSet α :=
  if isSpecial k then listDs c (taxCol col)
  else { kind := atomKind col, data := .d1 (col.filterMap (scalarCell c)) }

theorem fmtDs_special (c : Utf8) {k : String} (col : List (MdVal α)) (hs : isSpecial k = true) :
    fmtDs c k col = listDs c (taxCol col) := if_pos hs

theorem fmtDs_general (c : Utf8) {k : String} (col : List (MdVal α)) (hs : isSpecial k = false) :
    fmtDs c k col = { kind := atomKind col, data := .d1 (col.filterMap (scalarCell c)) } :=
  if_neg (hs ▸ Bool.false_ne_true)

theorem taxCol_good (col : List (MdVal α)) (h : col.all goodList = true) : taxCol col = col :=
  if_neg (not_any_of_all MdVal.not_isText_of_isList (all_of_all isList_of_goodList h))

theorem taxCol_flat (col : List (MdVal α)) (hne : col ≠ []) (h : col.all MdVal.isText = true) :
    taxCol col = splitCol col := if_pos (any_of_all hne h)

theorem colDomain_cases {k : String} {col : List (MdVal α)} (hd : colDomain k col = true) :
    isSpecial k = true ∧ (col.all goodList = true ∨ k = "taxonomy" ∧ col.all MdVal.isText = true) ∨
    isSpecial k = false ∧ atomDomain col = true := by
  unfold colDomain at hd
  cases hs : isSpecial k with
  | true => rw [hs, if_pos rfl, Bool.or_eq_true, Bool.and_eq_true, beq_iff_eq] at hd; exact .inl ⟨rfl, hd⟩
  | false => rw [hs, if_neg Bool.false_ne_true] at hd; exact .inr ⟨rfl, hd⟩

theorem fmtCategory_domain (c : Utf8) (k : String) (col : List (MdVal α)) (hne : col ≠ [])
    (hd : colDomain k col = true) : fmtCategory c k col = .ok (sanitize k, fmtDs c k col) := by
  rcases colDomain_cases hd with ⟨hs, hlt⟩ | ⟨hs, ha⟩
  · rw [fmtCategory, if_pos hs, special_sanitize k hs, fmtDs_special c col hs]
    rcases hlt with hl | ⟨rfl, ht⟩
    · rw [listFmt_lists c k col hne (all_of_all isList_of_goodList hl), taxCol_good col hl]
    · rw [listFmt_flat c col hne ht, taxCol_flat col hne ht]
  · rw [fmtCategory, if_neg (hs ▸ Bool.false_ne_true), fmtDs_general c col hs]
    exact generalFmt_atoms c k col hne ha

/-! ### stored entries stand for the values, in order -/
section rep
variable [DecidableEq α]

theorem okEq_ok {β : Type} [BEq β] [LawfulBEq β] (x : β) : okEq (.ok x) x = true := beq_self_eq_true x

theorem scalarCell_isSome (c : Utf8) (v : MdVal α) (h : v.isAtom = true) : (scalarCell c v).isSome = true := by
  cases v with
  | list _ => exact absurd h Bool.false_ne_true
  | none => exact absurd h Bool.false_ne_true
  | _ => rfl

theorem represents_scalarCell (c : Utf8) (hc : c.RT) {v : MdVal α} {x : Cell α} (h : scalarCell c v = some x) :
    represents c v (.scalar x) = true := by
  cases v with
  | text s => cases h; exact (congrArg (okEq · s) (hc.rt s)).trans (okEq_ok s)
  | int i => cases h; exact beq_self_eq_true i
  | float a => cases h; exact beq_self_eq_true a
  | bool b => cases h; exact beq_self_eq_true b
  | _ => cases h

theorem allRep_atoms (c : Utf8) (hc : c.RT) (col : List (MdVal α)) (h : col.all MdVal.isAtom = true) :
    allRep c col ((col.filterMap (scalarCell c)).map .scalar) = true := by
  induction col with
  | nil => rfl
  | cons v vs ih =>
    rw [List.all_cons, Bool.and_eq_true] at h
    obtain ⟨x, hx⟩ := Option.isSome_iff_exists.mp (scalarCell_isSome c v h.1)
    rw [List.filterMap_cons, hx, List.map_cons, allRep, represents_scalarCell c hc hx, ih h.2]; rfl

theorem filterMap_scalarCell_length (c : Utf8) (col : List (MdVal α)) (h : col.all MdVal.isAtom = true) :
    (col.filterMap (scalarCell c)).length = col.length :=
  length_filterMap_of_isSome fun v hv => scalarCell_isSome c v (List.all_eq_true.mp h v hv)

theorem strCell_ne_empty (c : Utf8) (hc : c.RT) (s : String) (hs : s ≠ "") :
    (strCell (α := α) c s != Cell.s c.empty) = true :=
  bne_iff_ne.mpr fun h => hs (hc.encNonEmpty s (Cell.s.inj h))

theorem filter_padRow_parts (c : Utf8) (hc : c.RT) (w : Nat) (l : List String) :
    (padRow (α := α) c w l).filter (fun x => x != .s c.empty) = (l.filter (fun p => p != "")).map (strCell c) := by
  have hcell (s : String) : (strCell (α := α) c s != Cell.s c.empty) = (s != "") := by
    by_cases hs : s = ""
    · subst hs; rw [strCell, hc.encEmpty]; simp only [bne_self_eq_false]
    · rw [strCell_ne_empty c hc s hs, bne_iff_ne.mpr hs]
  rw [padRow, List.filter_append, List.filter_replicate, bne_self_eq_false, if_neg Bool.false_ne_true,
    List.append_nil, List.filter_map]
  exact congrArg _ (List.filter_congr fun s _ => hcell s)

theorem filter_padRow (c : Utf8) (hc : c.RT) (w : Nat) (l : List String) (hl : ∀ s ∈ l, s ≠ "") :
    (padRow (α := α) c w l).filter (fun x => x != .s c.empty) = l.map (strCell c) := by
  rw [filter_padRow_parts c hc, List.filter_eq_self.mpr fun s hs => bne_iff_ne.mpr (hl s hs)]

theorem padRow_allS (c : Utf8) (w : Nat) (l : List String) :
    (padRow (α := α) c w l).all (fun x => match x with | .s _ => true | _ => false) = true := by
  rw [padRow, List.all_append, Bool.and_eq_true, List.all_eq_true, List.all_eq_true]
  constructor
  · intro x hx
    obtain ⟨s, _, rfl⟩ := List.mem_map.mp hx; rfl
  · intro x hx
    rw [List.eq_of_mem_replicate hx]

theorem padRow_length (c : Utf8) (w : Nat) (l : List String) (h : l.length ≤ w) :
    (padRow (α := α) c w l).length = w := by
  rw [padRow, List.length_append, List.length_map, List.length_replicate, Nat.add_sub_cancel' h]

theorem okEq_padRow (c : Utf8) (hc : c.RT) (w : Nat) (l : List String) :
    ((padRow (α := α) c w l).all (fun x => match x with | .s _ => true | _ => false) &&
      okEq (((padRow (α := α) c w l).filter (fun x => x != .s c.empty)).mapM (cellStr c))
        (l.filter (fun p => p != ""))) = true := by
  rw [padRow_allS, filter_padRow_parts c hc, mapM_cellStr c hc, okEq_ok]; rfl

theorem represents_list (c : Utf8) (hc : c.RT) (w : Nat) (l : List String) (hl : ∀ s ∈ l, s ≠ "") :
    represents (α := α) c (.list l) (.vec (padRow c w l)) = true := by
  have := okEq_padRow (α := α) c hc w l
  rwa [List.filter_eq_self.mpr fun s hs => bne_iff_ne.mpr (hl s hs)] at this

theorem represents_flat (c : Utf8) (hc : c.RT) (w : Nat) (s : String) :
    represents (α := α) c (.text s) (.vec (padRow c w (splitTax s))) = true :=
  okEq_padRow c hc w _

theorem allRep_map (c : Utf8) (f : MdVal α → Row α) (col : List (MdVal α))
    (h : ∀ v ∈ col, represents c v (f v) = true) : allRep c col (col.map f) = true := by
  induction col with
  | nil => rfl
  | cons v vs ih =>
    rw [List.map_cons, allRep, h v List.mem_cons_self, ih fun x hx => h x (List.mem_cons_of_mem _ hx)]; rfl

theorem allRep_lists (c : Utf8) (hc : c.RT) (w : Nat) (col : List (MdVal α)) (h : col.all goodList = true) :
    allRep c col ((col.map (listRow c w)).map .vec) = true := by
  rw [List.map_map]
  refine allRep_map c _ col fun v hv => ?_
  obtain ⟨l, rfl, _, hl⟩ := goodList_elems (List.all_eq_true.mp h v hv)
  exact represents_list c hc w l hl

theorem allRep_flat (c : Utf8) (hc : c.RT) (w : Nat) (col : List (MdVal α)) (h : col.all MdVal.isText = true) :
    allRep c col (((splitCol col).map (listRow c w)).map .vec) = true := by
  rw [splitCol, List.map_map, List.map_map]
  refine allRep_map c _ col fun v hv => ?_
  cases v with
  | text s => exact represents_flat c hc w s
  | _ => exact absurd (List.all_eq_true.mp h _ hv) Bool.false_ne_true

theorem listLens_mem (col : List (MdVal α)) (l : List String) (h : MdVal.list l ∈ col) :
    l.length ∈ listLens col := by
  induction col with
  | nil => cases h
  | cons x xs ih =>
    rcases List.mem_cons.mp h with rfl | h'
    · exact List.mem_cons_self
    · cases x with
      | list l' => exact List.mem_cons_of_mem _ (ih h')
      | _ => exact ih h'

theorem listRow_length (c : Utf8) (col : List (MdVal α)) (v : MdVal α) (hv : v ∈ col) :
    (listRow c (maxL (listLens col)) v).length = maxL (listLens col) := by
  cases v with
  | list l => exact padRow_length c _ l (le_maxL (listLens_mem col l hv))
  | _ => exact List.length_replicate

theorem listDs_shape (c : Utf8) (col : List (MdVal α)) :
    dsRect (listDs c col) = true ∧ dsRows (listDs c col) = col.length := by
  refine ⟨List.all_eq_true.mpr fun r hr => ?_, List.length_map _⟩
  obtain ⟨v, hv, rfl⟩ := List.mem_map.mp hr
  exact beq_iff_eq.mpr (listRow_length c col v hv)

/-- the dataset of a category of the domain: one entry per ID, rectangular, entry `i` standing
for value `i` -/
theorem fmtDs_spec (c : Utf8) (hc : c.RT) (k : String) (col : List (MdVal α)) (hne : col ≠ [])
    (hd : colDomain k col = true) :
    dsRect (fmtDs c k col) = true ∧ dsRows (fmtDs c k col) = col.length ∧
    ∃ rs, (fmtDs c k col).data.rowsOf = some rs ∧ allRep c col rs = true := by
  rcases colDomain_cases hd with ⟨hs, hl | ⟨_, ht⟩⟩ | ⟨hs, ha⟩
  · rw [fmtDs_special c col hs, taxCol_good col hl]
    exact ⟨(listDs_shape c col).1, (listDs_shape c col).2, _, rfl, allRep_lists c hc _ col hl⟩
  · rw [fmtDs_special c col hs, taxCol_flat col hne ht]
    exact ⟨(listDs_shape c _).1, (listDs_shape c _).2.trans (List.length_map _), _, rfl,
      allRep_flat c hc _ col ht⟩
  · rw [fmtDs_general c col hs]
    have hat := atomDomain_atoms col ha
    exact ⟨rfl, filterMap_scalarCell_length c col hat, _, rfl, allRep_atoms c hc col hat⟩

end rep

/-! ### the metadata group, the matrix groups, the axis group -/
section groups
variable [DecidableEq α]

structure MdFacts (e0 : MdE α) (es : List (MdE α)) : Prop where
  keysNe : keysOf e0 ≠ []
  keysNodup : (keysOf e0).Nodup
  rest : ∀ e ∈ es, (keysOf e).Nodup ∧ sameKeys e e0 = true ∧ (keysOf e).length = (keysOf e0).length
  sanNodup : ((keysOf e0).map sanitize).Nodup
  cols : ∀ k ∈ keysOf e0, colDomain k (colOf (e0 :: es) k) = true

theorem mdDomain_facts (e0 : MdE α) (es : List (MdE α)) (h : mdDomain (some (e0 :: es)) = true) :
    MdFacts e0 es := by
  simp only [mdDomain, Bool.and_eq_true, Bool.not_eq_true', List.isEmpty_eq_false_iff, decide_eq_true_eq,
    List.all_eq_true, beq_iff_eq] at h
  obtain ⟨⟨⟨⟨h1, h2⟩, h3⟩, h4⟩, h5⟩ := h
  exact ⟨h1, h2, fun e he => ⟨(h3 e he).1.1, (h3 e he).1.2, (h3 e he).2⟩, h4, h5⟩

theorem colOf_ne_nil (e0 : MdE α) (es : List (MdE α)) (k : String) : colOf (e0 :: es) k ≠ [] :=
  List.cons_ne_nil _ _

/-- what `mdDsets` yields on the domain (`[]` without metadata) -/
def mdTree (c : Utf8) : Option (List (MdE α)) → List (String × DSet α)
  | some (e0 :: es) => (keysOf e0).map (fun k => (sanitize k, fmtDs c k (colOf (e0 :: es) k)))
  | _ => []

theorem mdDsets_ok (c : Utf8) (md : Option (List (MdE α))) (h : mdDomain md = true) :
    mdDsets c md = .ok (mdTree c md) := by
  match md with
  | none => rfl
  | some [] => rfl
  | some (e0 :: es) =>
    have hf := mdDomain_facts e0 es h
    have hany : ¬ es.any (fun e => !sameKeys e e0) = true := by
      rw [Bool.not_eq_true, List.any_eq_false]
      intro e he; rw [(hf.rest e he).2.1]; exact Bool.false_ne_true
    rw [mdDsets, if_neg hany]
    exact mapM_ok_map _ _ _ fun k hk => fmtCategory_domain c k _ (colOf_ne_nil e0 es k) (hf.cols k hk)

theorem mdOK_mdTree (c : Utf8) (hc : c.RT) (ids : List Id) (md : Option (List (MdE α)))
    (hlen : ∀ m, md = some m → m.length = ids.length) (h : mdDomain md = true) (g : AxGrp α)
    (hg : g.md = some (mdTree c md)) : mdOK c ids md (some g) = true := by
  unfold mdOK
  simp only [hg]
  match md with
  | none => rfl
  | some [] => exact absurd h Bool.false_ne_true
  | some (e0 :: es) =>
    have hf := mdDomain_facts e0 es h
    have hspec := fun k hk => fmtDs_spec c hc k _ (colOf_ne_nil e0 es k) (hf.cols k hk)
    simp only [mdTree, Bool.and_eq_true, List.all_eq_true, beq_iff_eq]
    constructor
    · intro nd hnd
      obtain ⟨k, hk, rfl⟩ := List.mem_map.mp hnd
      exact ⟨(hspec k hk).1, (hspec k hk).2.1.trans ((List.length_map _).trans (hlen _ rfl))⟩
    · intro k hk
      obtain ⟨rs, hrs, hrep⟩ := (hspec k hk).2.2
      rw [lookup_map_nodup sanitize (fun k => fmtDs c k (colOf (e0 :: es) k)) _ hf.sanNodup k hk]
      simp only [hrs, hrep]

theorem idsDs_eq (c : Utf8) (ids : List Id) :
    (if ids.length > 0 then strDs (α := α) c ids else { kind := .vlenStr, data := .d1 [] }) = strDs c ids := by
  cases ids with
  | nil => rfl
  | cons x xs => exact if_pos (Nat.succ_pos _)

def matTree (cs : CS α) : MatGrp α :=
  { data := some { kind := .f64, data := .d1 (cs.data.map .f) },
    indices := some { kind := .i32, data := .d1 (cs.indices.map natCell) },
    indptr := some { kind := .i32, data := .d1 (cs.indptr.map natCell) } }

def axTree (c : Utf8) (ids : List Id) (md : Option (List (MdE α))) (gmd : List (String × String × String))
    (cs : CS α) : AxGrp α :=
  { ids := some (strDs c ids), md := some (mdTree c md), gmd := some (gmdDsets c gmd), matrix := some (matTree cs) }

theorem axGrp_ok (c : Utf8) (ids : List Id) (md : Option (List (MdE α))) (gmd : List (String × String × String))
    (bare : List (String × String)) (nnz : Nat) (cs : CS α) (hmd : mdDomain md = true) (hd : cs.data.length = nnz) (hi : cs.indices.length = nnz) :
    axGrp c ids md gmd bare nnz cs = .ok (axTree c ids md (gmdAll gmd bare) cs) := by
  unfold axGrp matGrp
  simp only [mdDsets_ok c md hmd, hd, hi, and_self, if_true, idsDs_eq]
  rfl

theorem specVals_f (l : List α) : specVals (some ({ kind := .f64, data := .d1 (l.map .f) } : DSet α)) = .ok l :=
  mapM_cellVal l

theorem specNats_nat (l : List Nat) :
    specNats (some ({ kind := .i32, data := .d1 (l.map natCell) } : DSet α)) = .ok l :=
  mapM_cellNat l

theorem readView_matTree (cs : CS α) (major minor : Nat) (hM : cs.nMajor = major) (hm : cs.nMinor = minor) :
    readView major minor (some (matTree cs)) = .ok cs := by
  subst hM hm
  simp only [readView, reqE, matTree, specVals_f, specNats_nat, bind, Except.bind, pure, Except.pure]

end groups

theorem gmdOK_axTree [DecidableEq α] (c : Utf8) (hc : c.RT) (ids : List Id) (md : Option (List (MdE α)))
    (g : List (String × String × String)) (cs : CS α) (hnd : (g.map (·.1)).Nodup) :
    gmdOK c g (some (axTree c ids md g cs)) = true := by
  have hl : ∀ kv ∈ g, (gmdDsets (α := α) c g).lookup kv.1 =
      some { kind := .vlenStr, data := .d1 [strCell c kv.2.2], dataType := some kv.2.1 } :=
    fun kv hkv => lookup_map_nodup (·.1) _ g hnd kv hkv
  unfold gmdOK
  simp only [axTree, Bool.and_eq_true, beq_iff_eq, List.all_eq_true]
  refine ⟨List.length_map _, fun kv hkv => ?_⟩
  rw [hl kv hkv]
  simp [strCell, hc.rt, okEq]

/-! ### the root attributes, the whole tree -/

def attrTree (dc : DateC δ) (t : Src α) (genBy : String) (date : Option δ) (now : δ) (csr : CS α) :
    List (String × Attr) :=
  [("id", .str (idAttr t.tableId)), ("type", .str (typeAttr t.ttype)),
   ("format-url", .str "http://biom-format.org"), ("format-version", .ints [2, 1]),
   ("generated-by", .str genBy), ("creation-date", .str (dc.iso (date.getD now))),
   ("shape", .ints [Int.ofNat csr.nMajor, Int.ofNat csr.nMinor]), ("nnz", .int (Int.ofNat csr.data.length))]

theorem lookup_attrTree (dc : DateC δ) (t : Src α) (genBy : String) (date : Option δ) (now : δ) (csr : CS α) :
    (attrTree dc t genBy date now csr).lookup "id" = some (.str (idAttr t.tableId)) ∧
    (attrTree dc t genBy date now csr).lookup "type" = some (.str (typeAttr t.ttype)) ∧
    (attrTree dc t genBy date now csr).lookup "format-url" = some (.str "http://biom-format.org") ∧
    (attrTree dc t genBy date now csr).lookup "format-version" = some (.ints [2, 1]) ∧
    (attrTree dc t genBy date now csr).lookup "generated-by" = some (.str genBy) ∧
    (attrTree dc t genBy date now csr).lookup "creation-date" = some (.str (dc.iso (date.getD now))) ∧
    (attrTree dc t genBy date now csr).lookup "shape" =
      some (.ints [Int.ofNat csr.nMajor, Int.ofNat csr.nMinor]) ∧
    (attrTree dc t genBy date now csr).lookup "nnz" = some (.int (Int.ofNat csr.data.length)) := by
  simp only [attrTree, List.lookup, String.reduceBEq, and_self]

/-- the tree `to_hdf5` writes for a table of the domain -/
def written (c : Utf8) (dc : DateC δ) (t : Src α) (genBy : String) (date : Option δ) (now : δ)
    (csr csc : CS α) : H5 α :=
  { attrs := attrTree dc t genBy date now csr,
    obs := some (axTree c t.obs t.omd (gmdAll t.ogmd t.ogmdBare) csr),
    samp := some (axTree c t.samp t.smd (gmdAll t.sgmd t.sgmdBare) csc) }

/-! A tree with these root attributes.  Stated for a variable tree: on the concrete `written …` every
step unfolds the tree again, which is slow to check. -/
section attrs
variable (dc : DateC δ) (t : Src α) (genBy : String) (date : Option δ) (now : δ) (csr : CS α) (h : H5 α)
  (ha : h.attrs = attrTree dc t genBy date now csr)
include ha

theorem attrStr_of_attrTree :
    attrStr h "generated-by" = .ok genBy ∧ attrStr h "creation-date" = .ok (dc.iso (date.getD now)) ∧
    attrStr h "id" = .ok (idAttr t.tableId) ∧ attrStr h "type" = .ok (typeAttr t.ttype) := by
  obtain ⟨h1, h2, _, _, h5, h6, _⟩ := lookup_attrTree dc t genBy date now csr
  simp only [attrStr, ha, h1, h2, h5, h6, and_self]

theorem attrShape_of_attrTree : attrShape h = .ok (csr.nMajor, csr.nMinor) := by
  obtain ⟨_, _, _, _, _, _, h7, _⟩ := lookup_attrTree dc t genBy date now csr
  rw [attrShape, ha, h7]
  exact if_pos ⟨Int.natCast_nonneg _, Int.natCast_nonneg _⟩

theorem attrNat_of_attrTree : attrNat h "nnz" = .ok csr.data.length := by
  obtain ⟨_, _, _, _, _, _, _, h8⟩ := lookup_attrTree dc t genBy date now csr
  rw [attrNat, ha, h8]
  exact if_pos (Int.natCast_nonneg _)

end attrs

end Biom.Hdf5
