/-
  C07 — helper lemmas: the separation invariant and its preservation, the footprint of a step
  (what it may write), frame, the content-level effect of in-place steps and of the constructor, and the
  invariant `Normal` (no table holds an information-free metadata tuple).
-/
import BiomModel.C07
import BiomModel.Lemmas.Layer
namespace Biom.C07
set_option linter.unusedSectionVars false
variable {γ : Type} [Inhabited γ]

/-! ### lists as stores -/

theorem getElem?_some_lt {α : Type} {l : List α} {t : Nat} {o : α} (h : l[t]? = some o) : t < l.length :=
  (List.getElem?_eq_some_iff.mp h).1

theorem foldl_invariant {σ α : Type} {P : σ → Prop} {f : σ → α → σ} (hf : ∀ s a, P s → P (f s a))
    (l : List α) {s : σ} (hs : P s) : P (l.foldl f s) := by
  induction l generalizing s with
  | nil => exact hs
  | cons a r ih => exact ih (hf s a hs)

theorem map_pair_eq_zip {α β : Type} (b : β) : ∀ ls : List α,
    ls.map (fun l => (l, b)) = ls.zip (List.replicate ls.length b)
  | [] => rfl
  | l :: ls => congrArg ((l, b) :: ·) (map_pair_eq_zip b ls)

theorem zip_fst_sub {α β : Type} (ls : List α) (us : List β) : ∀ l ∈ (ls.zip us).map (·.1), l ∈ ls := by
  intro l hm
  obtain ⟨⟨a, b⟩, hab, rfl⟩ := List.mem_map.mp hm
  exact (List.of_mem_zip hab).1

theorem map_range_read {α : Type} (dflt : α) (ys pre post : List α) :
    (List.range' pre.length ys.length).map (fun l => (pre ++ ys ++ post)[l]?.getD dflt) = ys := by
  apply List.ext_getElem
  · rw [List.length_map, List.length_range']
  · intro i h1 h2
    rw [List.getElem_map, List.getElem_range', Nat.one_mul, List.append_assoc,
      List.getElem?_append_right (Nat.le_add_right _ _), Nat.add_sub_cancel_left, List.getElem?_append_left h2,
      List.getElem?_eq_getElem h2]
    rfl

def Agree {α : Type} (W : List Nat) (l l' : List α) : Prop :=
  l.length ≤ l'.length ∧ ∀ i, i < l.length → i ∉ W → l'[i]? = l[i]?

namespace Agree
variable {α : Type} {W W' : List Nat} {l l' l'' : List α}

theorem refl : Agree W l l := ⟨Nat.le_refl _, fun _ _ _ => rfl⟩

theorem append {e : List α} : Agree W l (l ++ e) :=
  ⟨by rw [List.length_append]; exact Nat.le_add_right _ _, fun _ hi _ => List.getElem?_append_left hi⟩

theorem set {i : Nat} {v : α} (hi : i ∈ W) : Agree W l (l.set i v) :=
  ⟨Nat.le_of_eq List.length_set.symm, fun j _ hj => List.getElem?_set_ne (fun e => hj (by subst e; exact hi))⟩

theorem trans (a : Agree W l l') (b : Agree W l' l'') : Agree W l l'' :=
  ⟨Nat.le_trans a.1 b.1, fun i hi hn => (b.2 i (Nat.lt_of_lt_of_le hi a.1) hn).trans (a.2 i hi hn)⟩

theorem mono (a : Agree W l l') (hW : ∀ i ∈ W, i ∈ W') : Agree W' l l' :=
  ⟨a.1, fun i hi hn => a.2 i hi (fun hw => hn (hW i hw))⟩

theorem get (a : Agree [] l l') {i : Nat} (hi : i < l.length) : l'[i]? = l[i]? := a.2 i hi (List.not_mem_nil)

theorem take_eq (a : Agree [] l l') : l'.take l.length = l := by
  apply List.ext_getElem?
  intro i
  rw [List.getElem?_take]
  split
  · rename_i hi; exact a.get hi
  · rename_i hi; exact (List.getElem?_eq_none (Nat.le_of_not_lt hi)).symm

end Agree

/-! ### the records and the stores: what the model's definitions do -/

theorem dict_def (h : Heap γ) : h.dict = fun l => h.dicts[l]?.getD [] := rfl

theorem mem_dlocs {o : Obj} {l : Nat} : l ∈ o.dlocs ↔ l ∈ o.omd.getD [] ∨ l ∈ o.smd.getD [] :=
  List.mem_append

theorem md_getD_sub_dlocs (o : Obj) (ax : Axis) : ∀ l ∈ (o.md ax).getD [], l ∈ o.dlocs := by
  intro l hl
  cases ax
  · exact List.mem_append_left _ hl
  · exact List.mem_append_right _ hl

theorem md_sub_dlocs {o : Obj} {ax : Axis} {ls : List Nat} (hm : o.md ax = some ls) : ∀ l ∈ ls, l ∈ o.dlocs :=
  fun l hl => md_getD_sub_dlocs o ax l (by rw [hm]; exact hl)

@[simp] theorem setMd_mat (o : Obj) (ax : Axis) (m) : (o.setMd ax m).mat = o.mat := by cases ax <;> rfl
@[simp] theorem setMd_idsLoc (o : Obj) (ax ax' : Axis) (m) : (o.setMd ax m).idsLoc ax' = o.idsLoc ax' := by
  cases ax <;> rfl

theorem mem_dlocs_setMd {o : Obj} {ax : Axis} {m : Option (List Nat)} {l : Nat}
    (hl : l ∈ (o.setMd ax m).dlocs) : l ∈ m.getD [] ∨ l ∈ o.dlocs := by
  cases ax
  · exact (List.mem_append.mp hl).imp_right (List.mem_append_right _)
  · exact (List.mem_append.mp hl).symm.imp_right (List.mem_append_left _)

theorem dlocs_setMd_sublist (o : Obj) (ax : Axis) (m' : Option (List Nat))
    (hm : (m'.getD []).Sublist ((o.md ax).getD [])) : (o.setMd ax m').dlocs.Sublist o.dlocs := by
  cases ax
  · exact hm.append (List.Sublist.refl _)
  · exact (List.Sublist.refl _).append hm

theorem nodup_dlocs_setMd {o : Obj} {ax : Axis} {ls : List Nat} (hnone : o.md ax = none) (hN : o.dlocs.Nodup)
    (hls : ls.Nodup) (hd : ∀ l ∈ ls, l ∉ o.dlocs) : (o.setMd ax (some ls)).dlocs.Nodup := by
  cases ax
  · have e : o.dlocs = o.smd.getD [] := congrArg (fun m : Option (List Nat) => m.getD [] ++ o.smd.getD []) hnone
    exact List.nodup_append.mpr ⟨hls, e ▸ hN, fun a ha b hb hab => hd a ha (e ▸ hab ▸ hb)⟩
  · have e : o.dlocs = o.omd.getD [] :=
      (congrArg (fun m : Option (List Nat) => o.omd.getD [] ++ m.getD []) hnone).trans (List.append_nil _)
    exact List.nodup_append.mpr ⟨e ▸ hN, hls, fun a ha b hb hab => hd b hb (e ▸ hab ▸ ha)⟩

theorem md_nodup_disjoint {o : Obj} (hN : o.dlocs.Nodup) {ax : Axis} {locs : List Nat} (hm : o.md ax = some locs) :
    locs.Nodup ∧ ∀ x ∈ (o.md ax.other).getD [], x ∉ locs := by
  have hN' := List.nodup_append.mp hN
  cases ax
  · have e : o.omd.getD [] = locs := congrArg (·.getD []) hm
    exact e ▸ ⟨hN'.1, fun x hx hl => hN'.2.2 x hl x hx rfl⟩
  · have e : o.smd.getD [] = locs := congrArg (·.getD []) hm
    exact e ▸ ⟨hN'.2.1, fun x hx hl => hN'.2.2 x hx x hl rfl⟩

theorem zipUpd_replicate (f : Md → Md) : ∀ ms : List Md, zipUpd ms (List.replicate ms.length (some f)) = ms.map f
  | [] => rfl
  | m :: ms => congrArg (f m :: ·) (zipUpd_replicate f ms)

theorem setMd_setMd (c : Content γ) (ax : Axis) (a b : Option (List Md)) : (c.setMd ax a).setMd ax b = c.setMd ax b := by
  cases ax <;> rfl

theorem fresh_getD {α : Type} (m : Option (List α)) (d : Nat) :
    (m.map (fun l => List.range' d l.length)).getD [] = List.range' d (m.getD []).length := by
  cases m <;> rfl

theorem dlocs_fresh {α β : Type} (o : Obj) (m1 : Option (List α)) (m2 : Option (List β)) (d : Nat)
    (h1 : o.omd = m1.map (fun l => List.range' d l.length))
    (h2 : o.smd = m2.map (fun l => List.range' (d + (m1.getD []).length) l.length)) :
    o.dlocs = List.range' d ((m1.getD []).length + (m2.getD []).length) := by
  unfold Obj.dlocs
  rw [h1, h2, fresh_getD, fresh_getD, List.range'_append_1]

/-- two metadata tuples wrapped in fresh dicts at the end of the store (the constructor, `_cast_metadata`)
are read back as they were -/
theorem fresh_read (pre : List Md) (m1 m2 : Option (List Md)) :
    (m1.map (fun l => List.range' pre.length l.length)).map
      (fun x => x.map (fun l => (pre ++ m1.getD [] ++ m2.getD [])[l]?.getD [])) = m1 ∧
    (m2.map (fun l => List.range' (pre.length + (m1.getD []).length) l.length)).map
      (fun x => x.map (fun l => (pre ++ m1.getD [] ++ m2.getD [])[l]?.getD [])) = m2 := by
  constructor
  · cases m1 with
    | none => rfl
    | some l => exact congrArg some (map_range_read [] l pre _)
  · cases m2 with
    | none => rfl
    | some l =>
      have := map_range_read [] l (pre ++ m1.getD []) []
      rw [List.append_nil, List.length_append] at this
      exact congrArg some this

theorem newEntries_length (ups : List (Option (Md → Md))) : (newEntries ups).length = ups.length :=
  List.length_map _

theorem writeDicts_stores (h : Heap γ) (ws) :
    (h.writeDicts ws).mats = h.mats ∧ (h.writeDicts ws).ids = h.ids ∧ (h.writeDicts ws).objs = h.objs ∧
    (h.writeDicts ws).dicts.length = h.dicts.length := by
  induction ws generalizing h with
  | nil => exact ⟨rfl, rfl, rfl, rfl⟩
  | cons w r ih =>
    rcases w with ⟨l, _ | u⟩
    · exact ih h
    · obtain ⟨h1, h2, h3, h4⟩ := ih { h with dicts := h.dicts.set l (u (h.dict l)) }
      exact ⟨h1, h2, h3, h4.trans List.length_set⟩
@[simp] theorem writeDicts_mats (h : Heap γ) (ws) : (h.writeDicts ws).mats = h.mats := (writeDicts_stores h ws).1
@[simp] theorem writeDicts_ids (h : Heap γ) (ws) : (h.writeDicts ws).ids = h.ids := (writeDicts_stores h ws).2.1
@[simp] theorem writeDicts_objs (h : Heap γ) (ws) : (h.writeDicts ws).objs = h.objs := (writeDicts_stores h ws).2.2.1
@[simp] theorem writeDicts_len (h : Heap γ) (ws) : (h.writeDicts ws).dicts.length = h.dicts.length :=
  (writeDicts_stores h ws).2.2.2

theorem writeDicts_dicts (h : Heap γ) (ws : List (Nat × Option (Md → Md))) :
    Agree (ws.map (·.1)) h.dicts (h.writeDicts ws).dicts := by
  induction ws generalizing h with
  | nil => exact .refl
  | cons w r ih =>
    rcases w with ⟨l, _ | u⟩
    · exact (ih h).mono (fun i hi => List.mem_cons_of_mem _ hi)
    · exact (Agree.set (List.mem_cons_self ..)).trans
        ((ih { h with dicts := h.dicts.set l (u (h.dict l)) }).mono (fun i hi => List.mem_cons_of_mem _ hi))

theorem writeDicts_dict_of_not_mem (h : Heap γ) (ws : List (Nat × Option (Md → Md))) (l : Nat)
    (hb : l < h.dicts.length) (hl : l ∉ ws.map (·.1)) : (h.writeDicts ws).dict l = h.dict l :=
  congrArg (·.getD []) ((writeDicts_dicts h ws).2 l hb hl)

theorem recast_mats (h : Heap γ) (t : Nat) : (h.recast t).mats = h.mats := by
  unfold Heap.recast; split <;> rfl
theorem recast_ids (h : Heap γ) (t : Nat) : (h.recast t).ids = h.ids := by
  unfold Heap.recast; split <;> rfl

/-! ### the separation invariant, kept by every micro-step -/

/-- separation, for stores of sizes `nm`, `ni`, `nd`: every reference of every table is in range;
no two tables share a matrix buffer or a dict (ID arrays may be shared: they are never written);
no table references a dict twice -/
structure SepS (nm ni nd : Nat) (objs : List Obj) : Prop where
  matB : ∀ (t : Nat) (o : Obj), objs[t]? = some o → (o.mat : Nat) < nm
  idsB : ∀ (t : Nat) (o : Obj), objs[t]? = some o → ∀ ax, (o.idsLoc ax : Nat) < ni
  dictB : ∀ (t : Nat) (o : Obj), objs[t]? = some o → ∀ l ∈ o.dlocs, (l : Nat) < nd
  matD : ∀ (t u : Nat) (o p : Obj), objs[t]? = some o → objs[u]? = some p → (o.mat : Nat) = p.mat → t = u
  dictD : ∀ (t u : Nat) (o p : Obj) (l : Nat), objs[t]? = some o → objs[u]? = some p → l ∈ o.dlocs → l ∈ p.dlocs → t = u
  dictN : ∀ (t : Nat) (o : Obj), objs[t]? = some o → o.dlocs.Nodup

def Sep (h : Heap γ) : Prop := SepS h.mats.length h.ids.length h.dicts.length h.objs

theorem SepS.mono {nm ni nd nm' ni' nd' : Nat} {objs : List Obj} (s : SepS nm ni nd objs)
    (h1 : nm ≤ nm') (h2 : ni ≤ ni') (h3 : nd ≤ nd') : SepS nm' ni' nd' objs where
  matB t o h := Nat.lt_of_lt_of_le (s.matB t o h) h1
  idsB t o h ax := Nat.lt_of_lt_of_le (s.idsB t o h ax) h2
  dictB t o h l hl := Nat.lt_of_lt_of_le (s.dictB t o h l hl) h3
  matD := s.matD
  dictD := s.dictD
  dictN := s.dictN

/-- the invariant survives when table `t` (an existing one, or the next to be created) gets the
record `o'`, provided every buffer and dict `o'` references is either newly allocated or was
referenced by the old record of `t`, and the stores only grow -/
theorem SepS.update {nm ni nd nm' ni' nd' : Nat} {objs objs' : List Obj} (s : SepS nm ni nd objs)
    (h1 : nm ≤ nm') (h2 : ni ≤ ni') (h3 : nd ≤ nd') (t : Nat) (o' : Obj)
    (key : ∀ u p, objs'[u]? = some p → (u = t ∧ p = o') ∨ (u ≠ t ∧ objs[u]? = some p))
    (hm : (nm ≤ o'.mat ∧ o'.mat < nm') ∨ ∃ o, objs[t]? = some o ∧ o'.mat = o.mat)
    (hi : ∀ ax, o'.idsLoc ax < ni')
    (hd : ∀ l ∈ o'.dlocs, (nd ≤ l ∧ l < nd') ∨ ∃ o, objs[t]? = some o ∧ l ∈ o.dlocs)
    (hn : o'.dlocs.Nodup) : SepS nm' ni' nd' objs' := by
  have each : ∀ {P : Obj → Prop}, P o' → (∀ (u : Nat) p, objs[u]? = some p → P p) →
      ∀ (u : Nat) p, objs'[u]? = some p → P p := by
    intro P h0 hold u p hp
    rcases key u p hp with ⟨_, rfl⟩ | ⟨_, h⟩
    · exact h0
    · exact hold u p h
  have matU : ∀ v q, v ≠ t → objs[v]? = some q → o'.mat ≠ q.mat := by
    intro v q hv hq e
    rcases hm with ⟨hge, _⟩ | ⟨o, ho, eo⟩
    · have := s.matB v q hq; omega
    · exact hv (s.matD v t q o hq ho (e.symm.trans eo))
  have dictU : ∀ v q l, v ≠ t → objs[v]? = some q → l ∈ o'.dlocs → l ∉ q.dlocs := by
    intro v q l hv hq hl hlq
    rcases hd l hl with ⟨hge, _⟩ | ⟨o, ho, hlo⟩
    · have := s.dictB v q hq l hlq; omega
    · exact hv (s.dictD v t q o l hq ho hlq hlo)
  refine ⟨each ?_ fun u p h => Nat.lt_of_lt_of_le (s.matB u p h) h1,
    each hi fun u p h ax => Nat.lt_of_lt_of_le (s.idsB u p h ax) h2,
    each ?_ fun u p h l hl => Nat.lt_of_lt_of_le (s.dictB u p h l hl) h3, ?_, ?_, each hn s.dictN⟩
  · rcases hm with ⟨_, hlt⟩ | ⟨o, ho, eo⟩
    · exact hlt
    · exact eo ▸ Nat.lt_of_lt_of_le (s.matB t o ho) h1
  · intro l hl
    rcases hd l hl with ⟨_, hlt⟩ | ⟨o, ho, hlo⟩
    · exact hlt
    · exact Nat.lt_of_lt_of_le (s.dictB t o ho l hlo) h3
  · intro u v p q hp hq e
    rcases key u p hp with ⟨rfl, rfl⟩ | ⟨hu, hp'⟩ <;> rcases key v q hq with ⟨rfl, rfl⟩ | ⟨hv, hq'⟩
    · rfl
    · exact (matU v q hv hq' e).elim
    · exact (matU u p hu hp' e.symm).elim
    · exact s.matD _ _ _ _ hp' hq' e
  · intro u v p q l hp hq hlp hlq
    rcases key u p hp with ⟨rfl, rfl⟩ | ⟨hu, hp'⟩ <;> rcases key v q hq with ⟨rfl, rfl⟩ | ⟨hv, hq'⟩
    · rfl
    · exact (dictU v q l hv hq' hlp hlq).elim
    · exact (dictU u p l hu hp' hlq hlp).elim
    · exact s.dictD _ _ _ _ l hp' hq' hlp hlq

theorem SepS.set {nm ni nd nm' ni' nd' : Nat} {objs : List Obj} (s : SepS nm ni nd objs)
    (h1 : nm ≤ nm') (h2 : ni ≤ ni') (h3 : nd ≤ nd') {t : Nat} {o o' : Obj} (ho : objs[t]? = some o)
    (hm : (nm ≤ o'.mat ∧ o'.mat < nm') ∨ o'.mat = o.mat)
    (hi : ∀ ax, o'.idsLoc ax < ni')
    (hd : ∀ l ∈ o'.dlocs, (nd ≤ l ∧ l < nd') ∨ l ∈ o.dlocs)
    (hn : o'.dlocs.Nodup) : SepS nm' ni' nd' (objs.set t o') := by
  refine s.update h1 h2 h3 t o' ?_ (hm.imp_right fun e => ⟨o, ho, e⟩) hi
    (fun l hl => (hd l hl).imp_right fun e => ⟨o, ho, e⟩) hn
  intro u p hp
  by_cases e : t = u
  · subst e
    rw [List.getElem?_set_self (getElem?_some_lt ho)] at hp
    exact Or.inl ⟨rfl, (Option.some.inj hp).symm⟩
  · rw [List.getElem?_set_ne e] at hp
    exact Or.inr ⟨fun e' => e e'.symm, hp⟩

theorem SepS.push {nm ni nd nm' ni' nd' : Nat} {objs : List Obj} (s : SepS nm ni nd objs)
    (h1 : nm ≤ nm') (h2 : ni ≤ ni') (h3 : nd ≤ nd') (o' : Obj)
    (hm : nm ≤ o'.mat ∧ o'.mat < nm')
    (hi : ∀ ax, o'.idsLoc ax < ni')
    (hd : ∀ l ∈ o'.dlocs, nd ≤ l ∧ l < nd')
    (hn : o'.dlocs.Nodup) : SepS nm' ni' nd' (objs ++ [o']) := by
  refine s.update h1 h2 h3 objs.length o' ?_ (Or.inl hm) hi (fun l hl => Or.inl (hd l hl)) hn
  intro u p hp
  rcases Nat.lt_or_ge u objs.length with h | h
  · rw [List.getElem?_append_left h] at hp; exact Or.inr ⟨Nat.ne_of_lt h, hp⟩
  · have hlt := getElem?_some_lt hp
    rw [List.length_append, List.length_singleton] at hlt
    obtain rfl : u = objs.length := Nat.le_antisymm (Nat.le_of_lt_succ hlt) h
    rw [List.getElem?_concat_length] at hp
    exact Or.inl ⟨rfl, (Option.some.inj hp).symm⟩

theorem sep_allocIds {h : Heap γ} (s : Sep h) (l : List Id) : Sep (step h (.allocIds l)) := by
  unfold Sep at *
  simp only [step, List.length_append, List.length_singleton]
  exact s.mono (Nat.le_refl _) (Nat.le_succ _) (Nat.le_refl _)

/-- table `t` moves to a newly allocated buffer (`tocsr()`/`tocsc()` of a matrix in the other layout) -/
theorem sep_newMat {h : Heap γ} (s : Sep h) {t : Nat} {o : Obj} (ho : h.objs[t]? = some o) (v : γ) (f : Fmt) :
    Sep ({ h with mats := h.mats ++ [v],
                  objs := h.objs.set t { o with mat := h.mats.length, fmt := f } } : Heap γ) := by
  unfold Sep at *
  simp only [List.length_append, List.length_singleton]
  exact s.set (Nat.le_succ _) (Nat.le_refl _) (Nat.le_refl _) ho (Or.inl ⟨Nat.le_refl _, Nat.lt_succ_self _⟩)
    (s.idsB t o ho) (fun l hl => Or.inr hl) (s.dictN t o ho)

theorem sep_matKernel {h : Heap γ} (s : Sep h) (t ax) (g : γ → γ) : Sep (h.matKernel t ax g) := by
  unfold Heap.matKernel
  split
  · exact s
  · rename_i o ho
    split
    · unfold Sep at *; simp only [List.length_set]; exact s
    · exact sep_newMat s ho _ _

theorem sep_relayout {h : Heap γ} (s : Sep h) (t ax) : Sep (h.relayout t ax) := by
  unfold Heap.relayout
  split
  · exact s
  · rename_i o ho
    split
    · exact s
    · exact sep_newMat s ho _ _

theorem sep_setIds {h : Heap γ} (s : Sep h) (t ax) (l : List Id) : Sep (h.setIds t ax l) := by
  unfold Heap.setIds
  split
  · exact s
  · rename_i o ho
    unfold Sep at *
    simp only [List.length_append, List.length_singleton]
    have hi : ∀ ax', (o.setIdsLoc ax h.ids.length).idsLoc ax' < h.ids.length + 1 := by
      intro ax'
      have := s.idsB t o ho ax'
      cases ax <;> cases ax'
      · exact Nat.lt_succ_self _
      · exact Nat.lt_succ_of_lt this
      · exact Nat.lt_succ_of_lt this
      · exact Nat.lt_succ_self _
    have hd : (o.setIdsLoc ax h.ids.length).dlocs = o.dlocs := by cases ax <;> rfl
    refine s.set (Nat.le_refl _) (Nat.le_succ _) (Nat.le_refl _) ho (Or.inr ?_) hi ?_ ?_
    · cases ax <;> rfl
    · rw [hd]; exact fun l hl => Or.inr hl
    · rw [hd]; exact s.dictN t o ho

theorem sep_setMd_sub {nm ni nd : Nat} {objs : List Obj} (s : SepS nm ni nd objs) {t : Nat} {o : Obj}
    (ho : objs[t]? = some o) (ax : Axis) (m' : Option (List Nat))
    (sub : (m'.getD []).Sublist ((o.md ax).getD [])) : SepS nm ni nd (objs.set t (o.setMd ax m')) := by
  have sub' := dlocs_setMd_sublist o ax m' sub
  refine s.set (Nat.le_refl _) (Nat.le_refl _) (Nat.le_refl _) ho (Or.inr (setMd_mat ..)) ?_
    (fun l hl => Or.inr (sub'.subset hl)) ((s.dictN t o ho).sublist sub')
  intro ax'
  rw [setMd_idsLoc]; exact s.idsB t o ho ax'

theorem sep_keepMd {h : Heap γ} (s : Sep h) (t ax) (mask : List Bool) : Sep (h.keepMd t ax mask) := by
  unfold Heap.keepMd
  split
  · exact s
  · rename_i o ho
    apply sep_setMd_sub s ho ax
    cases o.md ax with
    | none => exact List.nil_sublist _
    | some ls =>
      simp only []
      split
      · exact List.nil_sublist _
      · exact filterMask_sublist ls mask

theorem sep_writeDicts {h : Heap γ} (s : Sep h) (ws) : Sep (h.writeDicts ws) := by
  unfold Sep at *
  rw [writeDicts_mats, writeDicts_ids, writeDicts_len, writeDicts_objs]
  exact s

theorem sep_delMd {h : Heap γ} (s : Sep h) (t ax) (d : Option (Md → Md)) : Sep (h.delMd t ax d) := by
  unfold Heap.delMd
  split
  · exact s
  · rename_i o ho
    split
    · exact sep_setMd_sub s ho ax none (List.nil_sublist _)
    · rename_i f
      split
      · exact s
      · rename_i locs hl
        have s1 := sep_writeDicts s (locs.map (fun l => (l, some f)))
        simp only []
        split
        · exact sep_setMd_sub s1 (by rw [writeDicts_objs]; exact ho) ax none (List.nil_sublist _)
        · exact s1

theorem sep_recast {h : Heap γ} (s : Sep h) (t : Nat) : Sep (h.recast t) := by
  unfold Heap.recast
  split
  · exact s
  · rename_i o ho
    unfold Sep at *
    simp only [List.length_append]
    refine s.set (Nat.le_refl _) (Nat.le_refl _) (by omega) ho (Or.inr rfl) (s.idsB t o ho) ?_ ?_
    · intro l hl
      rw [dlocs_fresh _ _ _ h.dicts.length rfl rfl, List.mem_range'_1] at hl
      exact Or.inl ⟨hl.1, by omega⟩
    · rw [dlocs_fresh _ _ _ h.dicts.length rfl rfl]; exact List.nodup_range'

/-- `n` is kept apart from `cs.length` because `addMd` allocates `newEntries ups` and counts `ups.length` -/
theorem sep_installFresh {h : Heap γ} (s : Sep h) {t : Nat} {o : Obj} (ho : h.objs[t]? = some o) {ax : Axis}
    (hnone : o.md ax = none) (cs : List Md) (n : Nat) (hn : n = cs.length) :
    Sep ({ h with dicts := h.dicts ++ cs,
                  objs := h.objs.set t (o.setMd ax (some (List.range' h.dicts.length n))) } : Heap γ) := by
  unfold Sep at *
  simp only [List.length_append]
  refine s.set (Nat.le_refl _) (Nat.le_refl _) (Nat.le_add_right _ _) ho (Or.inr (setMd_mat ..)) ?_ ?_ ?_
  · intro ax'
    rw [setMd_idsLoc]; exact s.idsB t o ho ax'
  · intro l hl
    refine (mem_dlocs_setMd hl).imp_left fun hl => ?_
    rw [Option.getD_some, List.mem_range'_1] at hl
    exact ⟨hl.1, hn ▸ hl.2⟩
  · refine nodup_dlocs_setMd hnone (s.dictN t o ho) List.nodup_range' fun l hl hlo => ?_
    rw [List.mem_range'_1] at hl
    exact Nat.lt_irrefl _ (Nat.lt_of_lt_of_le (s.dictB t o ho l hlo) hl.1)

theorem sep_addMd {h : Heap γ} (s : Sep h) (t ax) (ups : List (Option (Md → Md))) : Sep (h.addMd t ax ups) := by
  unfold Heap.addMd
  split
  · exact s
  · rename_i o ho
    split
    · exact sep_recast (sep_writeDicts s _) t
    · rename_i hnone
      split
      · exact sep_recast s t
      · exact sep_recast (sep_installFresh s ho hnone (newEntries ups) ups.length (newEntries_length ups).symm) t

theorem aliasLoc_lt {h : Heap γ} {src : IdSrc} {l : Nat} (e : h.aliasLoc src = some l) : l < h.ids.length := by
  unfold Heap.aliasLoc at e
  split at e
  · cases e
  · split at e
    · cases e; assumption
    · cases e
  · split at e
    · split at e
      · cases e; assumption
      · cases e
    · cases e

theorem construct_ids (h : Heap γ) (srcs : List Nat) (F : List (Content γ) → Content γ) (os ss : IdSrc) :
    Agree [] h.ids (h.construct srcs F os ss).ids ∧
    ∀ o', (h.construct srcs F os ss).objs[h.objs.length]? = some o' →
      ∀ ax, o'.idsLoc ax < (h.construct srcs F os ss).ids.length := by
  simp only [Heap.construct, List.getElem?_concat_length, Option.some.injEq]
  cases e1 : h.aliasLoc os <;> cases e2 : h.aliasLoc ss
  · refine ⟨Agree.append.trans .append, ?_⟩
    rintro _ rfl ax
    simp only [List.length_append, List.length_singleton]
    cases ax
    · exact Nat.lt_succ_of_lt (Nat.lt_succ_self _)
    · exact Nat.lt_succ_self _
  · refine ⟨Agree.append, ?_⟩
    rintro _ rfl ax
    simp only [List.length_append, List.length_singleton]
    cases ax
    · exact Nat.lt_succ_self _
    · exact Nat.lt_succ_of_lt (aliasLoc_lt e2)
  · refine ⟨Agree.append, ?_⟩
    rintro _ rfl ax
    simp only [List.length_append, List.length_singleton]
    cases ax
    · exact Nat.lt_succ_of_lt (aliasLoc_lt e1)
    · exact Nat.lt_succ_self _
  · refine ⟨Agree.refl, ?_⟩
    rintro _ rfl ax
    cases ax
    · exact aliasLoc_lt e1
    · exact aliasLoc_lt e2

theorem sep_construct {h : Heap γ} (s : Sep h) (srcs F os ss) : Sep (h.construct srcs F os ss) := by
  obtain ⟨hids, hloc⟩ := construct_ids h srcs F os ss
  unfold Sep
  have hm : (h.construct srcs F os ss).mats.length = h.mats.length + 1 := List.length_append
  refine s.push (hm ▸ Nat.le_succ _) hids.1 ?_ _ ⟨Nat.le_refl _, hm ▸ Nat.lt_succ_self _⟩
    (hloc _ List.getElem?_concat_length) ?_ ?_
  · simp only [Heap.construct, List.length_append]; omega
  · intro l hl
    rw [dlocs_fresh _ _ _ h.dicts.length rfl rfl, List.mem_range'_1] at hl
    simp only [Heap.construct, List.length_append]
    omega
  · rw [dlocs_fresh _ _ _ h.dicts.length rfl rfl]
    exact List.nodup_range'

theorem step_sep {h : Heap γ} (s : Sep h) (m : Micro γ) : Sep (step h m) := by
  cases m with
  | allocIds l => exact sep_allocIds s l
  | construct srcs F os ss => exact sep_construct s srcs F os ss
  | matKernel t ax g => exact sep_matKernel s t ax g
  | setIds t ax l => exact sep_setIds s t ax l
  | keepMd t ax mask => exact sep_keepMd s t ax mask
  | addMd t ax ups => exact sep_addMd s t ax ups
  | delMd t ax d => exact sep_delMd s t ax d
  | relayout t ax => exact sep_relayout s t ax

theorem run_sep {h : Heap γ} (s : Sep h) (ms : List (Micro γ)) : Sep (run h ms) :=
  foldl_invariant (P := Sep) (fun _ m s => step_sep s m) ms s

theorem stepOp_sep {h : Heap γ} (s : Sep h) (op : Op γ) : Sep (stepOp h op) := run_sep s _

theorem runOps_sep {h : Heap γ} (s : Sep h) (ops : List (Op γ)) : Sep (runOps h ops) :=
  foldl_invariant (P := Sep) (fun _ op s => stepOp_sep s op) ops s

theorem sep_empty : Sep (Heap.empty : Heap γ) where
  matB _ _ ho := by cases ho
  idsB _ _ ho := by cases ho
  dictB _ _ ho := by cases ho
  matD _ _ _ _ ho := by cases ho
  dictD _ _ _ _ _ ho := by cases ho
  dictN _ _ ho := by cases ho

/-! ### the footprint of a step -/

/-- `h'` is `h` after allocation and after writes confined to the matrix buffers `wm`, the dicts
`wd` and the record of table `tgt`: nothing else that existed has changed.  No ID array is ever
written, and an action aimed at a table creates none. -/
structure Footprint (wm wd : List Nat) (tgt : Option Nat) (h h' : Heap γ) : Prop where
  mats : Agree wm h.mats h'.mats
  ids : Agree [] h.ids h'.ids
  dicts : Agree wd h.dicts h'.dicts
  objs : Agree tgt.toList h.objs h'.objs
  tables : tgt ≠ none → h'.objs.length = h.objs.length

namespace Footprint
variable {wm wd : List Nat} {tgt : Option Nat} {h h' h'' : Heap γ}

theorem refl : Footprint wm wd tgt h h :=
  ⟨.refl, .refl, .refl, .refl, fun _ => rfl⟩

theorem trans (a : Footprint wm wd tgt h h') (b : Footprint wm wd tgt h' h'') : Footprint wm wd tgt h h'' :=
  ⟨a.mats.trans b.mats, a.ids.trans b.ids, a.dicts.trans b.dicts, a.objs.trans b.objs,
   fun ht => (b.tables ht).trans (a.tables ht)⟩

theorem ofSet {t : Nat} {o' : Obj} (am : Agree wm h.mats h'.mats) (ai : Agree [] h.ids h'.ids)
    (ad : Agree wd h.dicts h'.dicts) (ho : h'.objs = h.objs.set t o') : Footprint wm wd (some t) h h' :=
  ⟨am, ai, ad, ho ▸ .set (List.mem_singleton_self t), fun _ => ho ▸ List.length_set⟩

end Footprint

theorem writeDicts_footprint {wm wd : List Nat} {tgt : Option Nat} (h : Heap γ)
    (ws : List (Nat × Option (Md → Md))) (hw : ∀ l ∈ ws.map (·.1), l ∈ wd) :
    Footprint wm wd tgt h (h.writeDicts ws) :=
  ⟨writeDicts_mats h ws ▸ .refl, writeDicts_ids h ws ▸ .refl, (writeDicts_dicts h ws).mono hw,
   writeDicts_objs h ws ▸ .refl, fun _ => congrArg _ (writeDicts_objs h ws)⟩

theorem recast_footprint {wm wd : List Nat} (h : Heap γ) (t : Nat) : Footprint wm wd (some t) h (h.recast t) := by
  unfold Heap.recast
  split
  · exact .refl
  · exact .ofSet .refl .refl (Agree.append.trans .append) rfl

theorem step_footprint (h : Heap γ) (m : Micro γ) :
    Footprint (writes h m).1 (writes h m).2 m.target h (step h m) := by
  cases m with
  | allocIds l => exact ⟨.refl, .append, .refl, .refl, fun e => (e rfl).elim⟩
  | construct srcs F os ss =>
    exact ⟨.append, (construct_ids h srcs F os ss).1, Agree.append.trans .append,
      .append, fun e => (e rfl).elim⟩
  | matKernel t ax g =>
    simp only [step, Heap.matKernel, writes, Micro.target]
    cases h.objs[t]? with
    | none => exact .refl
    | some o =>
      by_cases hf : o.fmt = Fmt.ofAxis ax
      · simp only [if_pos hf]
        exact ⟨.set (List.mem_singleton_self _), .refl, .refl, .refl, fun _ => rfl⟩
      · simp only [if_neg hf]
        exact .ofSet .append .refl .refl rfl
  | relayout t ax =>
    simp only [step, Heap.relayout, writes, Micro.target]
    cases h.objs[t]? with
    | none => exact .refl
    | some o =>
      by_cases hf : o.fmt = Fmt.ofAxis ax
      · simp only [if_pos hf]; exact .refl
      · simp only [if_neg hf]
        exact .ofSet .append .refl .refl rfl
  | setIds t ax l =>
    simp only [step, Heap.setIds, writes, Micro.target]
    cases h.objs[t]? with
    | none => exact .refl
    | some o =>
      exact .ofSet .refl .append .refl rfl
  | keepMd t ax mask =>
    simp only [step, Heap.keepMd, writes, Micro.target]
    cases h.objs[t]? with
    | none => exact .refl
    | some o => exact .ofSet .refl .refl .refl rfl
  | addMd t ax ups =>
    simp only [step, Heap.addMd, writes, Micro.target]
    cases h.objs[t]? with
    | none => exact .refl
    | some o =>
      simp only []
      cases o.md ax with
      | some locs =>
        exact (writeDicts_footprint h _ (zip_fst_sub locs ups)).trans (recast_footprint _ t)
      | none =>
        simp only []
        split
        · exact recast_footprint h t
        · refine Footprint.trans ?_ (recast_footprint _ t)
          exact .ofSet .refl .refl .append rfl
  | delMd t ax d =>
    simp only [step, Heap.delMd, writes, Micro.target]
    cases h.objs[t]? with
    | none => exact .refl
    | some o =>
      cases d with
      | none => exact .ofSet .refl .refl .refl rfl
      | some f =>
        simp only []
        cases o.md ax with
        | none => exact .refl
        | some locs =>
          have fp : Footprint [] locs (some t) h (h.writeDicts (locs.map fun l => (l, some f))) :=
            writeDicts_footprint h _ (map_pair_eq_zip (some f) locs ▸ zip_fst_sub locs _)
          simp only []
          split
          · exact fp.trans (.ofSet .refl .refl .refl rfl)
          · exact fp

/-- a matrix buffer that is not in the write set of a step keeps its content -/
theorem mats_unwritten (h : Heap γ) (m : Micro γ) (l : Nat) (hl : l < h.mats.length)
    (hn : l ∉ (writes h m).1) : (step h m).mats[l]? = h.mats[l]? :=
  (step_footprint h m).mats.2 l hl hn

/-- a dict that is not in the write set of a step keeps its content -/
theorem dicts_unwritten (h : Heap γ) (m : Micro γ) (l : Nat) (hl : l < h.dicts.length)
    (hn : l ∉ (writes h m).2) : (step h m).dicts[l]? = h.dicts[l]? :=
  (step_footprint h m).dicts.2 l hl hn

/-- **ID arrays are never written** -/
theorem ids_never_written (h : Heap γ) (m : Micro γ) (l : Nat) (hl : l < h.ids.length) :
    (step h m).ids[l]? = h.ids[l]? :=
  (step_footprint h m).ids.get hl

theorem run_ids (h : Heap γ) (ms : List (Micro γ)) : Agree [] h.ids (run h ms).ids :=
  foldl_invariant (P := fun h' => Agree [] h.ids h'.ids) (fun h' m a => a.trans (step_footprint h' m).ids) ms .refl

theorem step_objs_length_le (h : Heap γ) (m : Micro γ) : h.objs.length ≤ (step h m).objs.length :=
  (step_footprint h m).objs.1

theorem run_objs_length_le (h : Heap γ) (ms : List (Micro γ)) : h.objs.length ≤ (run h ms).objs.length :=
  foldl_invariant (P := fun h' => h.objs.length ≤ h'.objs.length)
    (fun h' m a => Nat.le_trans a (step_objs_length_le h' m)) ms (Nat.le_refl _)

/-- **writes stay within the receiver**: whatever existing location a step writes belongs to the
table the step targets; a step without target (a constructor call) writes no existing location. -/
theorem writes_within_receiver (h : Heap γ) (m : Micro γ) :
    (∀ l ∈ (writes h m).1, ∃ t o, m.target = some t ∧ h.objs[t]? = some o ∧ o.mat = l) ∧
    (∀ l ∈ (writes h m).2, ∃ t o, m.target = some t ∧ h.objs[t]? = some o ∧ l ∈ o.dlocs) := by
  have nil : ∀ {P : Nat → Prop} (l : Nat), l ∈ ([] : List Nat) → P l := fun _ hl => nomatch hl
  cases m with
  | allocIds | construct | setIds | keepMd | relayout => exact ⟨nil, nil⟩
  | matKernel t ax g =>
    simp only [writes]
    cases ho : h.objs[t]? with
    | none => exact ⟨nil, nil⟩
    | some o =>
      by_cases hf : o.fmt = Fmt.ofAxis ax
      · simp only [if_pos hf]
        exact ⟨fun l hl => ⟨t, o, rfl, ho, (List.mem_singleton.mp hl).symm⟩, nil⟩
      · simp only [if_neg hf]; exact ⟨nil, nil⟩
  | addMd t ax ups =>
    simp only [writes]
    cases ho : h.objs[t]? with
    | none => exact ⟨nil, nil⟩
    | some o => exact ⟨nil, fun l hl => ⟨t, o, rfl, ho, md_getD_sub_dlocs o ax l hl⟩⟩
  | delMd t ax d =>
    simp only [writes]
    cases ho : h.objs[t]? with
    | none => exact ⟨nil, nil⟩
    | some o =>
      cases d with
      | none => exact ⟨nil, nil⟩
      | some f => exact ⟨nil, fun l hl => ⟨t, o, rfl, ho, md_getD_sub_dlocs o ax l hl⟩⟩

theorem writes_of_no_target (h : Heap γ) (m : Micro γ) (hm : m.target = none) : writes h m = ([], []) := by
  cases m with
  | allocIds | construct => rfl
  | _ => cases hm

/-! ### frame -/

theorem readMd_congr {h h' : Heap γ} {m : Option (List Nat)}
    (hd : ∀ ls, m = some ls → ∀ l ∈ ls, h'.dict l = h.dict l) : h'.readMd m = h.readMd m := by
  cases m with
  | none => rfl
  | some ls => exact congrArg some (List.map_congr_left (hd ls rfl))

theorem absObj_congr (h h' : Heap γ) (o : Obj)
    (hm : h'.mats[o.mat]? = h.mats[o.mat]?)
    (hi : ∀ ax, h'.ids[o.idsLoc ax]? = h.ids[o.idsLoc ax]?)
    (hd : ∀ l ∈ o.dlocs, h'.dicts[l]? = h.dicts[l]?) : h'.absObj o = h.absObj o := by
  have h1 : h'.ids[o.obsIds]? = h.ids[o.obsIds]? := hi .obs
  have h2 : h'.ids[o.sampIds]? = h.ids[o.sampIds]? := hi .samp
  have hd' : ∀ ax ls, o.md ax = some ls → ∀ l ∈ ls, h'.dict l = h.dict l :=
    fun ax ls e l hl => congrArg (·.getD []) (hd l (md_sub_dlocs e l hl))
  have e1 : h'.readMd o.omd = h.readMd o.omd := readMd_congr (hd' .obs)
  have e2 : h'.readMd o.smd = h.readMd o.smd := readMd_congr (hd' .samp)
  unfold Heap.absObj Heap.mat Heap.idArr
  rw [hm, h1, h2, e1, e2]

theorem abs_of_objs {h : Heap γ} {t : Nat} {o : Obj} (ho : h.objs[t]? = some o) : h.abs t = some (h.absObj o) :=
  congrArg (Option.map h.absObj) ho

theorem abs_some_obj {h : Heap γ} {t : Nat} {c : Content γ} (e : h.abs t = some c) :
    ∃ o, h.objs[t]? = some o ∧ h.absObj o = c :=
  Option.map_eq_some_iff.mp e

/-- **frame**: a step does not change the abstract content (IDs, values, metadata, type) of any
live table other than the one it targets. -/
theorem frame {h : Heap γ} (s : Sep h) (m : Micro γ) (t : Nat) (hlt : t < h.objs.length)
    (hne : m.target ≠ some t) : (step h m).abs t = h.abs t := by
  obtain ⟨o, ho⟩ : ∃ o, h.objs[t]? = some o := ⟨h.objs[t], List.getElem?_eq_getElem hlt⟩
  have fp := step_footprint h m
  have ho' : (step h m).objs[t]? = some o :=
    (fp.objs.2 t hlt (fun ht => hne (Option.mem_toList.mp ht))).trans ho
  obtain ⟨wm, wd⟩ := writes_within_receiver h m
  rw [abs_of_objs ho, abs_of_objs ho']
  -- a written location belongs to the target, and no two tables share one
  refine congrArg some (absObj_congr h _ o (fp.mats.2 _ (s.matB t o ho) fun hw => ?_)
    (fun ax => fp.ids.get (s.idsB t o ho ax)) (fun l hl => fp.dicts.2 l (s.dictB t o ho l hl) fun hw => ?_))
  · obtain ⟨t', o', ht', ho'', e⟩ := wm _ hw
    exact hne (s.matD t' t o' o ho'' ho e ▸ ht')
  · obtain ⟨t', o', ht', ho'', e⟩ := wd _ hw
    exact hne (s.dictD t' t o' o l ho'' ho e hl ▸ ht')

/-! ### what an in-place step does to the content of its target -/

theorem absObj_md (h : Heap γ) (o : Obj) (ax : Axis) : (h.absObj o).md ax = h.readMd (o.md ax) := by
  cases ax <;> rfl

theorem absObj_setMd (h : Heap γ) (o : Obj) (ax : Axis) (m : Option (List Nat)) :
    h.absObj (o.setMd ax m) = (h.absObj o).setMd ax (h.readMd m) := by
  cases ax <;> rfl

theorem absObj_setIdsLoc (h : Heap γ) (o : Obj) (ax : Axis) (l : Nat) :
    h.absObj (o.setIdsLoc ax l) = (h.absObj o).setIds ax (h.idArr l) := by
  cases ax <;> rfl

theorem abs_newMat {h : Heap γ} {t : Nat} (hlt : t < h.objs.length) (o : Obj) (v : γ) (f : Fmt) :
    ({ h with mats := h.mats ++ [v],
              objs := h.objs.set t { o with mat := h.mats.length, fmt := f } } : Heap γ).abs t =
      some { h.absObj o with mat := v } := by
  rw [abs_of_objs (List.getElem?_set_self hlt)]
  simp only [Heap.absObj, Heap.mat, List.getElem?_concat_length, Option.getD_some]
  rfl

theorem abs_matKernel {h : Heap γ} (s : Sep h) (t : Nat) (ax : Axis) (g : γ → γ) (o : Obj)
    (ho : h.objs[t]? = some o) :
    (h.matKernel t ax g).abs t = some { h.absObj o with mat := g (h.absObj o).mat } := by
  simp only [Heap.matKernel, ho]
  split
  · refine Eq.trans (abs_of_objs ho) ?_
    simp only [Heap.absObj, Heap.mat, List.getElem?_set_self (s.matB t o ho), Option.getD_some]
    rfl
  · exact abs_newMat (getElem?_some_lt ho) o _ _

theorem abs_relayout {h : Heap γ} (t : Nat) (ax : Axis) (o : Obj)
    (ho : h.objs[t]? = some o) : (h.relayout t ax).abs t = some (h.absObj o) := by
  simp only [Heap.relayout, ho]
  split
  · exact abs_of_objs ho
  · exact abs_newMat (getElem?_some_lt ho) o _ _

theorem abs_setIds {h : Heap γ} (s : Sep h) (t : Nat) (ax : Axis) (l : List Id) (o : Obj)
    (ho : h.objs[t]? = some o) :
    (h.setIds t ax l).abs t = some ((h.absObj o).setIds ax l) := by
  simp only [Heap.setIds, ho]
  rw [abs_of_objs (List.getElem?_set_self (getElem?_some_lt ho)), absObj_setIdsLoc]
  refine congrArg some (congr (congrArg (fun c : Content γ => c.setIds ax) ?_) ?_)
  · exact absObj_congr h _ o rfl (fun ax' => List.getElem?_append_left (s.idsB t o ho ax')) (fun _ _ => rfl)
  · exact congrArg (fun x : Option (List Id) => x.getD []) List.getElem?_concat_length

/-- `compress` on the references, then `None` if the kept dicts are all empty: the same on the contents -/
theorem readMd_keep (h : Heap γ) (m : Option (List Nat)) (mask : List Bool) :
    h.readMd (match m with
      | some ls => if (filterMask ls mask).all (fun l => (h.dict l).isEmpty) then none else some (filterMask ls mask)
      | none => none) = normMd ((h.readMd m).map (fun ms => filterMask ms mask)) := by
  cases m with
  | none => rfl
  | some ls =>
    have hc : ((filterMask ls mask).map h.dict).all (·.isEmpty) =
        (filterMask ls mask).all (fun l => (h.dict l).isEmpty) := List.all_map
    simp only [Heap.readMd, Option.map_some, normMd, ← filterMask_map, hc]
    split <;> rfl

theorem abs_keepMd {h : Heap γ} (t : Nat) (ax : Axis) (mask : List Bool) (o : Obj)
    (ho : h.objs[t]? = some o) :
    (h.keepMd t ax mask).abs t =
      some ((h.absObj o).setMd ax (normMd (((h.absObj o).md ax).map (fun ms => filterMask ms mask)))) := by
  simp only [Heap.keepMd, ho]
  rw [abs_of_objs (List.getElem?_set_self (getElem?_some_lt ho)), absObj_md, ← readMd_keep]
  exact congrArg some (absObj_setMd ..)

theorem content_md_congr (c : Content γ) {a a' b b' : Option (List Md)} (ha : a = a') (hb : b = b') :
    ({ c with omd := a, smd := b } : Content γ) = { c with omd := a', smd := b' } := by
  rw [ha, hb]

/-- `_cast_metadata` changes nothing but the normalisation of information-free tuples -/
theorem recast_abs {h : Heap γ} (t : Nat) : (h.recast t).abs t = (h.abs t).map Content.norm := by
  unfold Heap.recast
  cases ho : h.objs[t]? with
  | none => simp only [Heap.abs, ho, Option.map_none]
  | some o =>
    simp only [abs_of_objs ho, Option.map_some]
    rw [abs_of_objs (List.getElem?_set_self (getElem?_some_lt ho))]
    obtain ⟨e1, e2⟩ := fresh_read h.dicts (normMd (h.readMd o.omd)) (normMd (h.readMd o.smd))
    exact congrArg some (content_md_congr (h.absObj o) e1 e2)

theorem absObj_writeDicts {h : Heap γ} (s : Sep h) {t : Nat} {o : Obj} (ho : h.objs[t]? = some o)
    {ax : Axis} {locs : List Nat} (hm : o.md ax = some locs) (ws : List (Nat × Option (Md → Md)))
    (hws : ∀ l ∈ ws.map (·.1), l ∈ locs) :
    (h.writeDicts ws).absObj o = (h.absObj o).setMd ax (some (locs.map (h.writeDicts ws).dict)) := by
  have hother : (h.writeDicts ws).readMd (o.md ax.other) = h.readMd (o.md ax.other) :=
    readMd_congr fun ls e x hx => by
      have hx' : x ∈ (o.md ax.other).getD [] := by rw [e]; exact hx
      exact writeDicts_dict_of_not_mem h ws x (s.dictB t o ho x (md_getD_sub_dlocs o _ x hx'))
        (fun hw => (md_nodup_disjoint (s.dictN t o ho) hm).2 x hx' (hws x hw))
  have hown : (h.writeDicts ws).readMd (o.md ax) = some (locs.map (h.writeDicts ws).dict) := by rw [hm]; rfl
  unfold Heap.absObj Heap.mat Heap.idArr
  rw [writeDicts_mats, writeDicts_ids]
  cases ax
  · exact content_md_congr (h.absObj o) hown hother
  · exact content_md_congr (h.absObj o) hother hown

theorem writeDicts_zip (locs : List Nat) : ∀ (ups : List (Option (Md → Md))) (h : Heap γ), locs.Nodup →
    (∀ l ∈ locs, l < h.dicts.length) →
    locs.map (h.writeDicts (locs.zip ups)).dict = zipUpd (locs.map h.dict) ups := by
  induction locs with
  | nil => intro ups h _ _; cases ups <;> rfl
  | cons l ls ih =>
    intro ups h hn hb
    have hl : l ∉ ls := (List.nodup_cons.mp hn).1
    have hz : ∀ us : List (Option (Md → Md)), l ∉ (ls.zip us).map (·.1) := fun us hm => hl (zip_fst_sub ls us l hm)
    have hn' : ls.Nodup := (List.nodup_cons.mp hn).2
    have hlb : l < h.dicts.length := hb l (List.mem_cons_self ..)
    have hb' : ∀ x ∈ ls, x < h.dicts.length := fun x hx => hb x (List.mem_cons_of_mem _ hx)
    cases ups with
    | nil => rfl
    | cons u us =>
      cases u with
      | none =>
        simp only [List.zip_cons_cons, Heap.writeDicts, List.map_cons, zipUpd]
        rw [writeDicts_dict_of_not_mem _ _ _ hlb (hz us), ih us h hn' hb']
      | some f =>
        simp only [List.zip_cons_cons, Heap.writeDicts, List.map_cons, zipUpd]
        rw [writeDicts_dict_of_not_mem _ _ _ (Nat.lt_of_lt_of_eq hlb List.length_set.symm) (hz us),
          ih us _ hn' (fun x hx => Nat.lt_of_lt_of_eq (hb' x hx) List.length_set.symm)]
        congr 1
        · exact congrArg (·.getD []) (List.getElem?_set_self hlb)
        · congr 1
          apply List.map_congr_left
          intro x hx
          exact congrArg (fun y : Option Md => y.getD []) (List.getElem?_set_ne (fun e : l = x => hl (by rw [e]; exact hx)))

theorem absObj_writeDicts_zip {h : Heap γ} (s : Sep h) {t : Nat} {o : Obj} (ho : h.objs[t]? = some o)
    {ax : Axis} {locs : List Nat} (hm : o.md ax = some locs) (ups : List (Option (Md → Md))) :
    (h.writeDicts (locs.zip ups)).absObj o = (h.absObj o).setMd ax (some (zipUpd (locs.map h.dict) ups)) ∧
    locs.map (h.writeDicts (locs.zip ups)).dict = zipUpd (locs.map h.dict) ups :=
  have hz := writeDicts_zip locs ups h (md_nodup_disjoint (s.dictN t o ho) hm).1
    (fun l hl => s.dictB t o ho l (md_sub_dlocs hm l hl))
  ⟨hz ▸ absObj_writeDicts s ho hm _ (zip_fst_sub locs ups), hz⟩

theorem abs_installFresh {h : Heap γ} (s : Sep h) {t : Nat} {o : Obj} (ho : h.objs[t]? = some o) (ax : Axis)
    (cs : List Md) (n : Nat) (hn : n = cs.length) :
    ({ h with dicts := h.dicts ++ cs,
              objs := h.objs.set t (o.setMd ax (some (List.range' h.dicts.length n))) } : Heap γ).abs t =
      some ((h.absObj o).setMd ax (some cs)) := by
  subst hn
  rw [abs_of_objs (List.getElem?_set_self (getElem?_some_lt ho)), absObj_setMd]
  refine congrArg some (congr (congrArg (fun c : Content γ => c.setMd ax) ?_) ?_)
  · exact absObj_congr h _ o rfl (fun _ => rfl) (fun l hl => List.getElem?_append_left (s.dictB t o ho l hl))
  · have := map_range_read ([] : Md) cs h.dicts []
    rw [List.append_nil] at this
    exact congrArg some this

theorem abs_addMd {h : Heap γ} (s : Sep h) (t : Nat) (ax : Axis) (ups : List (Option (Md → Md))) (o : Obj)
    (ho : h.objs[t]? = some o) :
    (h.addMd t ax ups).abs t = some ((Micro.addMd t ax ups : Micro γ).absStep (h.absObj o)) := by
  unfold Heap.addMd
  simp only [ho, Micro.absStep, absObj_md]
  cases hm : o.md ax with
  | some locs =>
    simp only [Heap.readMd, Option.map_some]
    rw [recast_abs, abs_of_objs ((writeDicts_objs h _).symm ▸ ho), (absObj_writeDicts_zip s ho hm ups).1]
    rfl
  | none =>
    simp only [Heap.readMd, Option.map_none]
    split
    · rw [recast_abs, abs_of_objs ho]; rfl
    · rw [recast_abs, abs_installFresh s ho ax (newEntries ups) ups.length (newEntries_length ups).symm]
      rfl

theorem abs_delMd {h : Heap γ} (s : Sep h) (t : Nat) (ax : Axis) (d : Option (Md → Md)) (o : Obj)
    (ho : h.objs[t]? = some o) :
    (h.delMd t ax d).abs t = some ((Micro.delMd t ax d : Micro γ).absStep (h.absObj o)) := by
  have hlt := getElem?_some_lt ho
  cases d with
  | none =>
    simp only [Heap.delMd, ho]
    exact (abs_of_objs (List.getElem?_set_self hlt)).trans (congrArg some (absObj_setMd ..))
  | some f =>
    simp only [Heap.delMd, ho, Micro.absStep, absObj_md]
    cases hm : o.md ax with
    | none => exact abs_of_objs ho
    | some locs =>
      -- every dict of the axis is updated with `f`
      obtain ⟨ha, hz⟩ := absObj_writeDicts_zip s ho hm (List.replicate locs.length (some f))
      rw [← map_pair_eq_zip, ← List.length_map (f := h.dict), zipUpd_replicate] at ha hz
      have hc : (locs.all fun l => ((h.writeDicts (locs.map fun l => (l, some f))).dict l).isEmpty) =
          ((locs.map h.dict).map f).all (·.isEmpty) := by rw [← hz, List.all_map]; rfl
      simp only [Heap.readMd, Option.map_some, hc]
      split
      · refine (abs_of_objs (List.getElem?_set_self ((writeDicts_objs h _).symm ▸ hlt))).trans (congrArg some ?_)
        exact (absObj_setMd ..).trans ((congrArg (fun c : Content γ => c.setMd ax none) ha).trans (setMd_setMd ..))
      · rw [abs_of_objs ((writeDicts_objs h _).symm ▸ ho), ha]

/-- **the effect of an in-place step on its target is a function of the target's content alone**
(whatever the layout, whatever the history, whoever else shares its ID arrays). -/
theorem inplace_abs {h : Heap γ} (s : Sep h) (m : Micro γ) (t : Nat) (o : Obj)
    (hm : m.target = some t) (ho : h.objs[t]? = some o) :
    (step h m).abs t = some (m.absStep (h.absObj o)) := by
  cases m with
  | allocIds | construct => cases hm
  | matKernel t' ax g => cases hm; exact abs_matKernel s _ ax g o ho
  | setIds t' ax l => cases hm; exact abs_setIds s _ ax l o ho
  | keepMd t' ax mask => cases hm; exact abs_keepMd _ ax mask o ho
  | addMd t' ax ups => cases hm; exact abs_addMd s _ ax ups o ho
  | delMd t' ax d => cases hm; exact abs_delMd s _ ax d o ho
  | relayout t' ax => cases hm; exact abs_relayout _ ax o ho

/-! ### frame, re-layouts included, and over runs -/

/-- **frame, including the read accessors that cache a layout conversion**: a step changes the
content of no table other than its target, and a quiet step (re-layout) of none at all. -/
theorem frame_quiet {h : Heap γ} (s : Sep h) (m : Micro γ) (t : Nat) (hlt : t < h.objs.length)
    (hq : m.target ≠ some t ∨ m.quiet = true) : (step h m).abs t = h.abs t := by
  by_cases hne : m.target = some t
  · have hq := hq.resolve_left (fun hn => hn hne)
    have ho : h.objs[t]? = some h.objs[t] := List.getElem?_eq_getElem hlt
    rw [inplace_abs s m t _ hne ho, abs_of_objs ho]
    cases m with
    | relayout => rfl
    | _ => cases hq
  · exact frame s m t hlt hne

theorem run_frame_quiet {h : Heap γ} (s : Sep h) (ms : List (Micro γ)) (t : Nat) (hlt : t < h.objs.length)
    (hq : ∀ m ∈ ms, m.target ≠ some t ∨ m.quiet = true) : (run h ms).abs t = h.abs t := by
  induction ms generalizing h with
  | nil => rfl
  | cons m r ih =>
    exact (ih (step_sep s m) (Nat.lt_of_lt_of_le hlt (step_objs_length_le h m))
      (fun m' hm' => hq m' (List.mem_cons_of_mem _ hm'))).trans (frame_quiet s m t hlt (hq m (List.mem_cons_self ..)))

/-- **frame over operation sequences**: any run of steps none of which targets `t` leaves `t`
observably unchanged. -/
theorem run_frame {h : Heap γ} (s : Sep h) (ms : List (Micro γ)) (t : Nat) (hlt : t < h.objs.length)
    (hne : ∀ m ∈ ms, m.target ≠ some t) : (run h ms).abs t = h.abs t :=
  run_frame_quiet s ms t hlt (fun m hm => Or.inl (hne m hm))

/-! ### runs of in-place steps on one target -/

theorem run_inplace_abs {h : Heap γ} (s : Sep h) (ms : List (Micro γ)) (t : Nat) (o : Obj)
    (hm : ∀ m ∈ ms, m.target = some t) (ho : h.objs[t]? = some o) :
    (run h ms).abs t = some (absRun ms (h.absObj o)) := by
  induction ms generalizing h o with
  | nil => exact abs_of_objs ho
  | cons m r ih =>
    obtain ⟨o', ho', e⟩ := abs_some_obj (inplace_abs s m t o (hm m (List.mem_cons_self ..)) ho)
    exact (ih (step_sep s m) o' (fun m' hm' => hm m' (List.mem_cons_of_mem _ hm')) ho').trans
      (congrArg (fun c => some (absRun r c)) e)

theorem bodiesMicro_target (t : Nat) (bs : List (Body γ)) : ∀ m ∈ bodiesMicro t bs, m.target = some t := by
  intro m hm
  obtain ⟨b, _, hb⟩ := List.mem_flatMap.mp hm
  have e : (Body.micro t b).map Micro.target = List.replicate (Body.micro t b).length (some t) := by
    cases b <;> rfl
  exact List.eq_of_mem_replicate (e ▸ List.mem_map_of_mem hb)

/-- `absStep` never looks at the table an action is aimed at -/
theorem absRun_target_irrel (t t' : Nat) (bs : List (Body γ)) (c : Content γ) :
    absRun (bodiesMicro t bs) c = absRun (bodiesMicro t' bs) c := by
  have hb : ∀ b : Body γ, (Body.micro t b).map Micro.absStep = (Body.micro t' b).map Micro.absStep :=
    fun b => by cases b <;> rfl
  have hr : ∀ ms : List (Micro γ), absRun ms c = (ms.map Micro.absStep).foldl (fun c f => f c) c :=
    fun ms => by rw [List.foldl_map]; rfl
  rw [hr, hr, bodiesMicro, bodiesMicro, List.map_flatMap, List.map_flatMap]
  simp only [hb]

/-! ### the constructor -/

def builtContent (h : Heap γ) (c : Content γ) (os ss : IdSrc) : Content γ :=
  { obs := match h.aliasLoc os with | some l => h.idArr l | none => c.obs,
    samp := match h.aliasLoc ss with | some l => h.idArr l | none => c.samp,
    mat := c.mat, omd := normMd c.omd, smd := normMd c.smd, ttype := c.ttype }

theorem abs_construct (h : Heap γ) (srcs : List Nat) (F : List (Content γ) → Content γ) (os ss : IdSrc) :
    (h.construct srcs F os ss).abs h.objs.length =
      some (builtContent h (F (srcs.filterMap h.abs)) os ss) := by
  unfold Heap.construct
  simp only []
  generalize F (srcs.filterMap h.abs) = c
  rw [abs_of_objs List.getElem?_concat_length]
  obtain ⟨e1, e2⟩ := fresh_read h.dicts (normMd c.omd) (normMd c.smd)
  simp only [Heap.absObj, builtContent, Heap.mat, Heap.idArr, Heap.readMd, dict_def, e1, e2,
    List.getElem?_concat_length, Option.getD_some]
  -- an aliased array is an old one and is still where it was; a new one is read back
  cases a1 : h.aliasLoc os with
  | none =>
    cases a2 : h.aliasLoc ss with
    | none =>
      simp only []
      rw [List.getElem?_concat_length, List.getElem?_append_left (List.length_append ▸ Nat.lt_succ_self _),
        List.getElem?_concat_length]
      rfl
    | some _ =>
      simp only []
      rw [List.getElem?_concat_length, List.getElem?_append_left (aliasLoc_lt a2)]; rfl
  | some _ =>
    cases a2 : h.aliasLoc ss with
    | none =>
      simp only []
      rw [List.getElem?_concat_length, List.getElem?_append_left (aliasLoc_lt a1)]; rfl
    | some _ => rfl

/-! ### no table ever holds an information-free metadata tuple -/

theorem normMd_idem (m : Option (List Md)) : normMd (normMd m) = normMd m := by
  cases m with
  | none => rfl
  | some l =>
    by_cases hc : l.all (·.isEmpty) = true
    · simp only [normMd, if_pos hc]
    · simp only [normMd, if_neg hc]

theorem mdNormal_iff (c : Content γ) : c.mdNormal = true ↔ normMd c.omd = c.omd ∧ normMd c.smd = c.smd := by
  simp only [Content.mdNormal, Bool.and_eq_true, beq_iff_eq]

theorem norm_mdNormal (c : Content γ) : c.norm.mdNormal = true :=
  (mdNormal_iff _).mpr ⟨normMd_idem _, normMd_idem _⟩

theorem setMd_normal (c : Content γ) (ax : Axis) (m : Option (List Md)) (hc : c.mdNormal = true)
    (hm : normMd m = m) : (c.setMd ax m).mdNormal = true := by
  rw [mdNormal_iff] at *
  cases ax
  · exact ⟨hm, hc.2⟩
  · exact ⟨hc.1, hm⟩

theorem absStep_normal (m : Micro γ) (c : Content γ) (hc : c.mdNormal = true) : (m.absStep c).mdNormal = true := by
  cases m with
  | allocIds | construct | relayout | matKernel => exact hc
  | setIds t ax l => cases ax <;> exact hc
  | keepMd t ax mask => exact setMd_normal c ax _ hc (normMd_idem _)
  | addMd t ax ups => exact norm_mdNormal _
  | delMd t ax d =>
    cases d with
    | none => exact setMd_normal c ax none hc rfl
    | some f =>
      simp only [Micro.absStep]
      cases c.md ax with
      | none => exact hc
      | some ms =>
        simp only []
        split
        · exact setMd_normal c ax none hc rfl
        · rename_i hne
          exact setMd_normal c ax _ hc (if_neg hne)

def Normal (h : Heap γ) : Prop := ∀ (t : Nat) (o : Obj), h.objs[t]? = some o → (h.absObj o).mdNormal = true

theorem builtContent_normal (h : Heap γ) (c : Content γ) (os ss : IdSrc) : (builtContent h c os ss).mdNormal = true :=
  (mdNormal_iff _).mpr ⟨normMd_idem _, normMd_idem _⟩

theorem step_normal {h : Heap γ} (s : Sep h) (hn : Normal h) (m : Micro γ) : Normal (step h m) := by
  intro u o' ho'
  have habs := abs_of_objs ho'
  by_cases hlt : u < h.objs.length
  · have ho : h.objs[u]? = some h.objs[u] := List.getElem?_eq_getElem hlt
    by_cases ht : m.target = some u
    · rw [inplace_abs s m u _ ht ho] at habs
      exact Option.some.inj habs ▸ absStep_normal m _ (hn u _ ho)
    · rw [frame s m u hlt ht, abs_of_objs ho] at habs
      exact Option.some.inj habs ▸ hn u _ ho
  · -- a table that was not there before: the step is a constructor call
    have hu := getElem?_some_lt ho'
    have fp := step_footprint h m
    cases m with
    | construct srcs F os ss =>
      have : u = h.objs.length := by
        have : (h.construct srcs F os ss).objs.length = h.objs.length + 1 := List.length_append
        simp only [step] at hu; omega
      subst this
      rw [show step h (.construct srcs F os ss) = h.construct srcs F os ss from rfl, abs_construct] at habs
      exact Option.some.inj habs ▸ builtContent_normal _ _ _ _
    | allocIds l => exact absurd hu hlt
    | _ => exact absurd (fp.tables (fun e => nomatch e) ▸ hu) hlt

theorem run_normal {h : Heap γ} (s : Sep h) (hn : Normal h) (ms : List (Micro γ)) : Normal (run h ms) :=
  (foldl_invariant (P := fun h => Sep h ∧ Normal h)
    (fun _ m i => ⟨step_sep i.1 m, step_normal i.1 i.2 m⟩) ms ⟨s, hn⟩).2

theorem normal_empty : Normal (Heap.empty : Heap γ) :=
  fun _ _ ho => by cases ho

end Biom.C07
