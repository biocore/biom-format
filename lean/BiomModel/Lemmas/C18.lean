/-
  C18 — helper lemmas: dict operations, positional and (ID, key) lookups, casting, `add_metadata`;
  the characters of a mapping file (strip, unquote, split, join), the row grammar, the line loop
  over a file of the grammar, and the dict its stored rows give.
-/
import BiomModel.C18
import BiomModel.Lemmas.Layer

namespace Biom.C18

/-! ### dict operations -/
section Dict
variable {κ β : Type} [DecidableEq κ]

theorem dget_cons (k0 : κ) (v0 : β) (r : List (κ × β)) (k : κ) :
    dget ((k0, v0) :: r) k = if k0 = k then some v0 else dget r k := rfl

theorem dgetLast_cons (k0 : κ) (v0 : β) (r : List (κ × β)) (k : κ) :
    dgetLast ((k0, v0) :: r) k = (dgetLast r k).or (if k0 = k then some v0 else none) := by
  show (match dgetLast r k with | some w => some w | none => if k0 = k then some v0 else none) = _
  cases dgetLast r k <;> rfl

theorem ite_key_comm {k0 k : κ} (h : k0 ≠ k) (k' : κ) (a b c : Option β) :
    (if k0 = k' then a else if k = k' then b else c) = if k = k' then b else if k0 = k' then a else c := by
  by_cases h2 : k = k'
  · rw [if_pos h2, if_pos h2, if_neg fun e => h (e.trans h2.symm)]
  · rw [if_neg h2, if_neg h2]

theorem ite_key_same (p : Prop) [Decidable p] (a b c : Option β) :
    (if p then a else if p then b else c) = if p then a else c := by
  by_cases h : p
  · rw [if_pos h, if_pos h]
  · rw [if_neg h, if_neg h, if_neg h]

theorem ite_mem_cons {γ : Type} (k k0 : κ) (r : List κ) (a b : γ) :
    (if k ∈ r then a else if k0 = k then a else b) = if k ∈ k0 :: r then a else b := by
  by_cases h1 : k ∈ r
  · rw [if_pos h1, if_pos (List.mem_cons_of_mem _ h1)]
  · rw [if_neg h1]
    by_cases h2 : k0 = k
    · rw [if_pos h2, if_pos (h2 ▸ List.mem_cons_self)]
    · rw [if_neg h2, if_neg fun h => (List.mem_cons.mp h).elim (fun e => h2 e.symm) h1]

theorem dictSet_cons (k0 : κ) (v0 : β) (r : List (κ × β)) (k : κ) (v : β) :
    dictSet ((k0, v0) :: r) k v = if k0 = k then (k0, v) :: r else (k0, v0) :: dictSet r k v := rfl

theorem dget_dictSet (d : List (κ × β)) (k k' : κ) (v : β) :
    dget (dictSet d k v) k' = if k = k' then some v else dget d k' := by
  induction d with
  | nil => rfl
  | cons kv r ih =>
    obtain ⟨k0, v0⟩ := kv
    rw [dictSet_cons]
    by_cases h : k0 = k
    · subst h
      rw [if_pos rfl, dget_cons, dget_cons, ite_key_same]
    · rw [if_neg h, dget_cons, dget_cons, ih]
      exact ite_key_comm h k' _ _ _

theorem dget_dictUpdate (d e : List (κ × β)) (k : κ) :
    dget (dictUpdate d e) k = (dgetLast e k).or (dget d k) := by
  unfold dictUpdate
  induction e generalizing d with
  | nil => rfl
  | cons kv r ih =>
    obtain ⟨k0, v0⟩ := kv
    rw [List.foldl_cons, ih, dget_dictSet, dgetLast_cons]
    cases dgetLast r k with
    | some w => rfl
    | none =>
      by_cases h : k0 = k
      · rw [if_pos h, if_pos h]; rfl
      · rw [if_neg h, if_neg h]; rfl

/-- `d.update(dict.fromkeys(ks, f))` -/
theorem dget_dictUpdate_const (d : List (κ × β)) (ks : List κ) (f : β) (k : κ) :
    dget (dictUpdate d (ks.map fun k => (k, f))) k = if k ∈ ks then some f else dget d k := by
  unfold dictUpdate
  induction ks generalizing d with
  | nil => rfl
  | cons k0 r ih =>
    rw [List.map_cons, List.foldl_cons, ih, dget_dictSet]
    exact ite_mem_cons k k0 r _ _

theorem dget_eq_lookup (d : List (κ × β)) (k : κ) : dget d k = d.lookup k := by
  induction d with
  | nil => rfl
  | cons kv r ih =>
    obtain ⟨k0, v0⟩ := kv
    rw [dget_cons, List.lookup_cons, ih]
    by_cases h : k0 = k
    · rw [if_pos h, h, beq_self_eq_true]
    · rw [if_neg h, beq_false_of_ne fun e => h e.symm]

theorem dget_none_of_not_mem (e : List (κ × β)) (k : κ) (h : k ∉ dkeys e) : dget e k = none :=
  (dget_eq_lookup e k).trans (lookup_none_of_not_mem e k h)

theorem dget_mem (m : List (κ × β)) (k : κ) (v : β) (h : dget m k = some v) : (k, v) ∈ m :=
  mem_of_lookup m k v ((dget_eq_lookup m k).symm.trans h)

theorem dget_self_of_nodup (x : List (κ × β)) (k : κ) (v : β) (hn : (dkeys x).Nodup) (hm : (k, v) ∈ x) :
    dget x k = some v :=
  (dget_eq_lookup x k).trans (lookup_of_mem_nodup x hn (k, v) hm)

theorem dgetLast_eq_dget (e : List (κ × β)) (k : κ) (h : (dkeys e).Nodup) : dgetLast e k = dget e k := by
  induction e with
  | nil => rfl
  | cons kv r ih =>
    obtain ⟨k0, v0⟩ := kv
    rw [dkeys, List.map_cons, List.nodup_cons] at h
    rw [dgetLast_cons, dget_cons, ih h.2]
    by_cases hk : k0 = k
    · subst hk
      rw [dget_none_of_not_mem r k0 h.1]; rfl
    · rw [if_neg hk, if_neg hk]
      cases dget r k <;> rfl

theorem dget_dictUpdate_nodup (d e : List (κ × β)) (k : κ) (h : (dkeys e).Nodup) :
    dget (dictUpdate d e) k = (dget e k).or (dget d k) := by
  rw [dget_dictUpdate, dgetLast_eq_dget e k h]

theorem dget_dictDel (d : List (κ × β)) (k k' : κ) :
    dget (dictDel d k) k' = if k = k' then none else dget d k' := by
  unfold dictDel
  induction d with
  | nil => exact (ite_self _).symm
  | cons kv r ih =>
    obtain ⟨k0, v0⟩ := kv
    rw [List.filter_cons, dget_cons]
    by_cases h0 : k0 = k
    · subst h0
      rw [if_neg (by simp), ih, ite_key_same]
    · rw [if_pos (by simpa using h0), dget_cons, ih]
      exact ite_key_comm h0 k' _ _ _

theorem dget_foldl_dictDel (ks : List κ) (d : List (κ × β)) (k : κ) :
    dget (ks.foldl dictDel d) k = if k ∈ ks then none else dget d k := by
  induction ks generalizing d with
  | nil => rfl
  | cons k0 r ih =>
    rw [List.foldl_cons, ih, dget_dictDel]
    exact ite_mem_cons k k0 r _ _

theorem eq_nil_iff_dget_none (d : List (κ × β)) : d = [] ↔ ∀ k, dget d k = none := by
  cases d with
  | nil => exact ⟨fun _ _ => rfl, fun _ => rfl⟩
  | cons kv r =>
    obtain ⟨k0, v0⟩ := kv
    refine ⟨fun h => (nomatch h), fun h => ?_⟩
    have := h k0
    rw [dget_cons, if_pos rfl] at this
    cases this

theorem foldl_dictDel_eq_nil_iff (ks : List κ) (e : List (κ × β)) :
    ks.foldl dictDel e = [] ↔ ∀ k, dget e k ≠ none → k ∈ ks := by
  rw [eq_nil_iff_dget_none]
  refine forall_congr' fun k => ?_
  rw [dget_foldl_dictDel]
  by_cases h : k ∈ ks
  · rw [if_pos h]; exact ⟨fun _ _ => h, fun _ => rfl⟩
  · rw [if_neg h]; exact ⟨fun e hk => absurd e hk, fun hh => Decidable.by_contra fun hk => h (hh hk)⟩

end Dict

/-! ### positional lookups -/
section Pos
variable {β : Type}

theorem lookupBy_nil_right (ids : List Id) (t : Id) : lookupBy ids ([] : List β) t = none :=
  Biom.lookupBy_nil_right ids t

theorem modifyAt_zero (f : β → β) (x : β) (xs : List β) : modifyAt f 0 (x :: xs) = f x :: xs := rfl

theorem modifyAt_succ (f : β → β) (n : Nat) (x : β) (xs : List β) :
    modifyAt f (n + 1) (x :: xs) = x :: modifyAt f n xs := rfl

theorem modifyAt_eq_modify (f : β → β) (n : Nat) (xs : List β) : modifyAt f n xs = xs.modify n f := by
  induction xs generalizing n with
  | nil => cases n <;> rfl
  | cons x xs ih =>
    cases n with
    | zero => rfl
    | succ n => rw [modifyAt_succ, ih, List.modify_succ_cons]

theorem modifyAt_length (f : β → β) (n : Nat) (xs : List β) : (modifyAt f n xs).length = xs.length := by
  rw [modifyAt_eq_modify, List.length_modify]

theorem lookupBy_modifyAt_idxOf (f : β → β) (ids : List Id) (xs : List β) (id t : Id) :
    lookupBy ids (modifyAt f (ids.idxOf id) xs) t =
      if t = id then (lookupBy ids xs t).map f else lookupBy ids xs t := by
  induction ids generalizing xs with
  | nil => exact (ite_self _).symm
  | cons i is ih =>
    cases xs with
    | nil => cases (i :: is).idxOf id <;> exact (ite_self _).symm
    | cons x xs =>
      rw [List.idxOf_cons]
      by_cases e : i = id
      · subst e
        rw [beq_self_eq_true, cond_true, modifyAt_zero, lookupBy_cons, lookupBy_cons]
        by_cases e2 : i = t
        · rw [if_pos e2, if_pos e2, if_pos e2.symm]; rfl
        · rw [if_neg e2, if_neg e2, if_neg fun h => e2 h.symm]
      · rw [beq_false_of_ne e, cond_false, modifyAt_succ, lookupBy_cons, lookupBy_cons, ih]
        by_cases e2 : i = t
        · rw [if_pos e2, if_pos e2, if_neg fun h => e (e2.trans h)]
        · rw [if_neg e2, if_neg e2]

end Pos

/-! ### lookups by (ID, key); `_cast_metadata` -/
section TableOps
variable {α : Type}

/-- `keyOf` for an axis given by its IDs and its metadata -/
def keyIn (ids : List Id) (md : Option (List Md)) (id : Id) (k : String) : Option String :=
  (md.bind (fun m => lookupBy ids m id)).bind (fun e => dget e k)

theorem keyOf_eq (t : Table α) (ax : Axis) (id : Id) (k : String) :
    keyOf t ax id k = keyIn (t.ids ax) (t.md ax) id k := rfl

theorem keyIn_some (ids : List Id) (L : List Md) (id : Id) (k : String) :
    keyIn ids (some L) id k = (lookupBy ids L id).bind (fun e => dget e k) := rfl

theorem keyIn_of_not_mem (ids : List Id) (md : Option (List Md)) (id : Id) (k : String) (h : id ∉ ids) :
    keyIn ids md id k = none := by
  cases md with
  | none => rfl
  | some L => rw [keyIn_some, lookupBy_none_of_not_mem ids L id h]; rfl

/-- by (ID, key) lookups a tuple of empty entries is no metadata: the collapse to `None` is invisible -/
theorem keyIn_of_all_empty (ids : List Id) (L : List Md) (h : L.all (·.isEmpty) = true) (id : Id) (k : String) :
    keyIn ids (some L) id k = none := by
  rw [keyIn_some]
  cases hl : lookupBy ids L id with
  | none => rfl
  | some e => rw [List.isEmpty_iff.mp (List.all_eq_true.mp h e (lookupBy_mem _ _ _ _ hl))]; rfl

theorem castMd_some (tup : List (Option Md)) :
    castMd (some tup) =
      if (tup.map (·.getD [])).all (·.isEmpty) then none else some (tup.map (·.getD [])) := by
  rw [castMd, List.all_map]; rfl

theorem keyIn_castMd (ids : List Id) (tup : List (Option Md)) (id : Id) (k : String) :
    keyIn ids (castMd (some tup)) id k = keyIn ids (some (tup.map (·.getD []))) id k := by
  rw [castMd_some]
  split
  · rename_i h; exact (keyIn_of_all_empty ids _ h id k).symm
  · rfl

theorem map_getD_map_some (mds : List Md) : (mds.map some).map (·.getD []) = mds := by
  rw [List.map_map]; exact List.map_id' mds

theorem castMd_map_some (mds : List Md) :
    castMd (some (mds.map some)) = if mds.all (·.isEmpty) then none else some mds := by
  rw [castMd_some, map_getD_map_some]

/-! ### add_metadata -/

theorem updStep_length (ids : List Id) (mds : List Md) (ie : Id × Md) :
    (updStep ids mds ie).length = mds.length := by
  unfold updStep
  cases indexOf? ids ie.1 with
  | none => rfl
  | some i => exact modifyAt_length _ i mds

theorem fold_updStep_length (ids : List Id) (m : List (Id × Md)) (mds : List Md) :
    (m.foldl (updStep ids) mds).length = mds.length := by
  induction m generalizing mds with
  | nil => rfl
  | cons ie r ih => rw [List.foldl_cons, ih, updStep_length]

theorem lookupBy_updStep (ids : List Id) (mds : List Md) (ie : Id × Md) (t : Id) :
    lookupBy ids (updStep ids mds ie) t =
      if t = ie.1 then (lookupBy ids mds t).map (fun old => dictUpdate old ie.2) else lookupBy ids mds t := by
  unfold updStep
  by_cases h : ie.1 ∈ ids
  · rw [indexOf?_of_mem ids ie.1 h]
    exact lookupBy_modifyAt_idxOf _ ids mds ie.1 t
  · rw [indexOf?_of_not_mem ids ie.1 h]
    by_cases e : t = ie.1
    · rw [if_pos e, e, lookupBy_none_of_not_mem ids mds ie.1 h]; rfl
    · rw [if_neg e]

theorem lookupBy_fold_updStep (ids : List Id) (m : List (Id × Md)) (mds : List Md) (t : Id)
    (hm : (dkeys m).Nodup) :
    lookupBy ids (m.foldl (updStep ids) mds) t =
      (lookupBy ids mds t).map (fun old => match dget m t with
                                           | some e => dictUpdate old e
                                           | none => old) := by
  induction m generalizing mds with
  | nil => exact Option.map_id'.symm
  | cons ie r ih =>
    obtain ⟨id, e⟩ := ie
    rw [dkeys, List.map_cons, List.nodup_cons] at hm
    rw [List.foldl_cons, ih _ hm.2, lookupBy_updStep, dget_cons]
    by_cases h : t = id
    · subst h
      rw [if_pos rfl, if_pos rfl, dget_none_of_not_mem r t hm.1, Option.map_map]; rfl
    · rw [if_neg h, if_neg fun e => h e.symm]

theorem md_setMd_same (t : Table α) (ax : Axis) (m : Option (List Md)) : (setMd t ax m).md ax = m := by
  cases ax <;> rfl

theorem md_setMd_other (t : Table α) (ax : Axis) (m : Option (List Md)) : (setMd t ax m).md ax.other = t.md ax.other := by
  cases ax <;> rfl

theorem md_setMd_on_other (t : Table α) (ax : Axis) (m : Option (List Md)) : (setMd t ax.other m).md ax = t.md ax := by
  cases ax <;> rfl

theorem ids_setMd (t : Table α) (ax ax' : Axis) (m : Option (List Md)) : (setMd t ax m).ids ax' = t.ids ax' := by
  cases ax <;> cases ax' <;> rfl

theorem frame_setMd (t : Table α) (ax : Axis) (m : Option (List Md)) :
    (setMd t ax m).obs = t.obs ∧ (setMd t ax m).samp = t.samp ∧
    (setMd t ax m).rows = t.rows ∧ (setMd t ax m).ttype = t.ttype := by
  cases ax <;> exact ⟨rfl, rfl, rfl, rfl⟩

theorem md_addMetadata_same (t : Table α) (m : List (Id × Md)) (ax : Axis) :
    (addMetadata t m ax).md ax = castMd (some (addPre t m ax)) := by
  rw [addMetadata, md_setMd_on_other, md_setMd_same]

theorem md_addMetadata_other (t : Table α) (m : List (Id × Md)) (ax : Axis) :
    (addMetadata t m ax).md ax.other = castMd ((t.md ax.other).map (·.map some)) :=
  md_setMd_same _ _ _

theorem frame_addMetadata (t : Table α) (m : List (Id × Md)) (ax : Axis) :
    (addMetadata t m ax).obs = t.obs ∧ (addMetadata t m ax).samp = t.samp ∧
    (addMetadata t m ax).rows = t.rows ∧ (addMetadata t m ax).ttype = t.ttype := by
  have h1 := frame_setMd t ax (castMd (some (addPre t m ax)))
  have h2 := frame_setMd (setMd t ax (castMd (some (addPre t m ax)))) ax.other
    (castMd ((t.md ax.other).map (·.map some)))
  exact ⟨h2.1.trans h1.1, h2.2.1.trans h1.2.1, h2.2.2.1.trans h1.2.2.1, h2.2.2.2.trans h1.2.2.2⟩

theorem frameSame_of_eq [DecidableEq α] (before after : Table α)
    (h : after.obs = before.obs ∧ after.samp = before.samp ∧ after.rows = before.rows ∧ after.ttype = before.ttype) :
    frameSame before after = true := by
  rw [frameSame, h.1, h.2.1, h.2.2.1, h.2.2.2, beq_self_eq_true, beq_self_eq_true, beq_self_eq_true,
    decide_eq_true rfl]
  rfl

theorem ids_addMetadata (t : Table α) (m : List (Id × Md)) (ax ax' : Axis) :
    (addMetadata t m ax).ids ax' = t.ids ax' := by
  rw [addMetadata, ids_setMd, ids_setMd]

end TableOps

/-! ### characters: strip, unquote, split, join -/
section Chars

def hasNonWs (s : Str) : Bool := s.any (fun c => !isWs c)

theorem isWs_quote : isWs '"' = false := by decide
theorem isWs_hash : isWs '#' = false := by decide
theorem isWs_tab : isWs '\t' = true := by decide

theorem eq_false_of_not {b : Bool} (h : (!b) = true) : b = false := Bool.not_eq_true' b ▸ h

theorem hasNonWs_cons (c : Char) (r : Str) : hasNonWs (c :: r) = (!isWs c || hasNonWs r) := rfl

theorem hasNonWs_append (a b : Str) : hasNonWs (a ++ b) = (hasNonWs a || hasNonWs b) := List.any_append

theorem hasNonWs_cons_of_tail (c : Char) (b : Str) (h : hasNonWs b = true) : hasNonWs (c :: b) = true := by
  rw [hasNonWs_cons, h, Bool.or_true]

theorem hasNonWs_ne_nil (s : Str) (h : hasNonWs s = true) : s ≠ [] := by
  intro e; rw [e] at h; cases h

theorem hasNonWs_of_mem (s : Str) (c : Char) (hc : c ∈ s) (hw : isWs c = false) : hasNonWs s = true :=
  List.any_eq_true.mpr ⟨c, hc, by rw [hw]; rfl⟩

theorem allWs_iff_not_hasNonWs (s : Str) : s.all isWs = true ↔ hasNonWs s = false := by
  rw [hasNonWs, List.any_eq_not_all_not, Bool.not_eq_false']
  simp only [Bool.not_not]

theorem allWs_of_not_hasNonWs (a : Str) (h : ¬ hasNonWs a = true) : a.all isWs = true :=
  (allWs_iff_not_hasNonWs a).mpr (Bool.not_eq_true _ ▸ h)

theorem not_allWs_of_hasNonWs (a : Str) (h : hasNonWs a = true) : a.all isWs = false :=
  Bool.not_eq_true _ ▸ fun hh => Bool.false_ne_true (((allWs_iff_not_hasNonWs a).mp hh).symm.trans h)

theorem lstrip_cons (c : Char) (r : Str) : lstrip (c :: r) = if isWs c then lstrip r else c :: r :=
  List.dropWhile_cons

theorem lstrip_cons_ws (c : Char) (r : Str) (h : isWs c = true) : lstrip (c :: r) = lstrip r := by
  rw [lstrip_cons, if_pos h]

theorem lstrip_cons_nonws (c : Char) (r : Str) (h : isWs c = false) : lstrip (c :: r) = c :: r := by
  rw [lstrip_cons, h]; rfl

theorem lstrip_append_allWs (a b : Str) (h : a.all isWs = true) : lstrip (a ++ b) = lstrip b := by
  induction a with
  | nil => rfl
  | cons c r ih =>
    rw [List.all_cons, Bool.and_eq_true] at h
    rw [List.cons_append, lstrip_cons_ws _ _ h.1, ih h.2]

theorem lstrip_append_of_nonws (a b : Str) (h : hasNonWs a = true) : lstrip (a ++ b) = lstrip a ++ b := by
  induction a with
  | nil => cases h
  | cons c r ih =>
    cases hc : isWs c with
    | true =>
      rw [hasNonWs_cons, hc] at h
      rw [List.cons_append, lstrip_cons_ws _ _ hc, lstrip_cons_ws _ _ hc, ih h]
    | false => rw [List.cons_append, lstrip_cons_nonws _ _ hc, lstrip_cons_nonws _ _ hc, List.cons_append]

theorem lstrip_allWs (s : Str) (h : s.all isWs = true) : lstrip s = [] := by
  have := lstrip_append_allWs s [] h
  rwa [List.append_nil] at this

theorem lstrip_head_nonws (s : Str) (c : Char) (r : Str) (h : lstrip s = c :: r) : isWs c = false := by
  induction s with
  | nil => cases h
  | cons x xs ih =>
    cases hx : isWs x with
    | true => rw [lstrip_cons_ws _ _ hx] at h; exact ih h
    | false => rw [lstrip_cons_nonws _ _ hx] at h; cases h; exact hx

theorem lstrip_idem (s : Str) : lstrip (lstrip s) = lstrip s := by
  cases h : lstrip s with
  | nil => rfl
  | cons c r => exact lstrip_cons_nonws c r (lstrip_head_nonws s c r h)

theorem hasNonWs_lstrip (s : Str) : hasNonWs (lstrip s) = hasNonWs s := by
  induction s with
  | nil => rfl
  | cons c r ih =>
    cases hc : isWs c with
    | true => rw [lstrip_cons_ws _ _ hc, ih, hasNonWs_cons, hc]; rfl
    | false => rw [lstrip_cons_nonws _ _ hc]

theorem mem_lstrip (s : Str) (x : Char) (h : x ∈ lstrip s) : x ∈ s :=
  (List.dropWhile_sublist isWs).subset h

theorem lstrip_ne_nil_of_nonws (s : Str) (h : hasNonWs s = true) : lstrip s ≠ [] := by
  intro e
  rw [← hasNonWs_lstrip, e] at h
  cases h

section DropTrailing
variable {β : Type} (p : β → Bool)

/-- the trailing elements that satisfy `p` dropped: `rstrip` on characters, `dtb` on fields -/
def dropTrailing (l : List β) : List β := (l.reverse.dropWhile p).reverse

theorem dropTrailing_cons (x : β) (r : List β) :
    dropTrailing p (x :: r) = if (dropTrailing p r).isEmpty && p x then [] else x :: dropTrailing p r := by
  rw [dropTrailing, dropTrailing, List.reverse_cons, List.dropWhile_append, List.isEmpty_reverse]
  cases r.reverse.dropWhile p with
  | nil => rw [List.dropWhile_cons]; cases p x <;> rfl
  | cons y ys => exact List.reverse_append

/-- a function with the equations of `dropTrailing p` is `dropTrailing p` -/
theorem eq_dropTrailing (f : List β → List β) (hnil : f [] = [])
    (hcons : ∀ x r, f (x :: r) = if (f r).isEmpty && p x then [] else x :: f r) (l : List β) :
    f l = dropTrailing p l := by
  induction l with
  | nil => exact hnil
  | cons x r ih => rw [hcons, dropTrailing_cons, ih]

theorem dropTrailing_sublist (l : List β) : (dropTrailing p l).Sublist l :=
  List.reverse_sublist.mp (List.reverse_reverse _ ▸ List.dropWhile_sublist p)

theorem dropTrailing_append_dropped (l : List β) :
    ∃ sfx, sfx.all p = true ∧ dropTrailing p l ++ sfx = l :=
  ⟨(l.reverse.takeWhile p).reverse, List.all_reverse.trans List.all_takeWhile, by
    rw [dropTrailing, ← List.reverse_append, List.takeWhile_append_dropWhile, List.reverse_reverse]⟩

theorem getLast?_dropTrailing (l : List β) (z : β)
    (h : (dropTrailing p l).getLast? = some z) : p z = false := by
  have := List.head?_dropWhile_not p l.reverse
  rwa [← List.getLast?_reverse, ← dropTrailing, h] at this

end DropTrailing

theorem rstrip_cons (c : Char) (r : Str) :
    rstrip (c :: r) = if (rstrip r).isEmpty && isWs c then [] else c :: rstrip r := rfl

theorem rstrip_eq (s : Str) : rstrip s = dropTrailing isWs s := eq_dropTrailing isWs rstrip rfl rstrip_cons s

theorem rstrip_cons_of_ne_nil (c : Char) (r : Str) (h : rstrip r ≠ []) : rstrip (c :: r) = c :: rstrip r := by
  rw [rstrip_cons, List.isEmpty_eq_false_iff.mpr h]; rfl

theorem rstrip_cons_nonws (c : Char) (r : Str) (h : isWs c = false) : rstrip (c :: r) = c :: rstrip r := by
  rw [rstrip_cons, h, Bool.and_false]; rfl

theorem rstrip_eq_nil_iff (s : Str) : rstrip s = [] ↔ s.all isWs = true := by
  induction s with
  | nil => exact ⟨fun _ => rfl, fun _ => rfl⟩
  | cons c r ih =>
    rw [List.all_cons, Bool.and_eq_true, ← ih]
    by_cases hr : rstrip r = []
    · rw [rstrip_cons, hr]
      cases isWs c <;> simp
    · rw [rstrip_cons_of_ne_nil c r hr]
      exact ⟨fun h => absurd h (List.cons_ne_nil _ _), fun h => absurd h.2 hr⟩

theorem rstrip_allWs (s : Str) (h : s.all isWs = true) : rstrip s = [] := (rstrip_eq_nil_iff s).mpr h

theorem rstrip_ne_nil_of_nonws (s : Str) (h : hasNonWs s = true) : rstrip s ≠ [] := by
  intro e
  rw [(allWs_iff_not_hasNonWs s).mp ((rstrip_eq_nil_iff s).mp e)] at h
  cases h

theorem rstrip_append_of_nonws (a b : Str) (h : hasNonWs b = true) : rstrip (a ++ b) = a ++ rstrip b := by
  induction a with
  | nil => rfl
  | cons c r ih =>
    have hne : rstrip (r ++ b) ≠ [] := by
      rw [ih]
      exact fun e => rstrip_ne_nil_of_nonws b h (List.append_eq_nil_iff.mp e).2
    rw [List.cons_append, rstrip_cons_of_ne_nil c (r ++ b) hne, ih, List.cons_append]

theorem rstrip_append_allWs (a b : Str) (h : b.all isWs = true) : rstrip (a ++ b) = rstrip a := by
  induction a with
  | nil => exact rstrip_allWs b h
  | cons c r ih => rw [List.cons_append, rstrip_cons, rstrip_cons, ih]

theorem rstrip_of_last_nonws (s : Str) (c : Char) (h : s.getLast? = some c) (hc : isWs c = false) : rstrip s = s := by
  induction s with
  | nil => rfl
  | cons x xs ih =>
    cases xs with
    | nil =>
      cases h
      exact rstrip_cons_nonws x [] hc
    | cons y ys =>
      rw [List.getLast?_cons_cons] at h
      rw [rstrip_cons_of_ne_nil x (y :: ys) (by rw [ih h]; exact List.cons_ne_nil _ _), ih h]

theorem mem_rstrip (s : Str) (x : Char) (h : x ∈ rstrip s) : x ∈ s :=
  (rstrip_eq s ▸ dropTrailing_sublist isWs s).subset h

theorem rstrip_idem (s : Str) : rstrip (rstrip s) = rstrip s := by
  induction s with
  | nil => rfl
  | cons c r ih =>
    by_cases hr : rstrip r = []
    · rw [rstrip_cons, hr]
      cases hc : isWs c with
      | true => rfl
      | false => exact rstrip_cons_nonws c [] hc
    · rw [rstrip_cons_of_ne_nil c r hr, rstrip_cons_of_ne_nil c (rstrip r) (by rw [ih]; exact hr), ih]

theorem lstrip_rstrip_comm (s : Str) : lstrip (rstrip s) = rstrip (lstrip s) := by
  induction s with
  | nil => rfl
  | cons c r ih =>
    cases hc : isWs c with
    | true =>
      rw [lstrip_cons_ws c r hc]
      by_cases hr : rstrip r = []
      · rw [rstrip_cons, hr, hc, lstrip_allWs r ((rstrip_eq_nil_iff r).mp hr)]; rfl
      · rw [rstrip_cons_of_ne_nil c r hr, lstrip_cons_ws c _ hc, ih]
    | false => rw [lstrip_cons_nonws c r hc, rstrip_cons_nonws c r hc, lstrip_cons_nonws c _ hc]

theorem strip_lstrip (s : Str) : strip (lstrip s) = strip s := by rw [strip, strip, lstrip_idem]

theorem strip_rstrip (s : Str) : strip (rstrip s) = strip s := by
  rw [strip, strip, lstrip_rstrip_comm, rstrip_idem]

theorem strip_idem (s : Str) : strip (strip s) = strip s := by
  rw [strip, strip, lstrip_rstrip_comm (lstrip s), rstrip_idem, lstrip_idem]

theorem strip_ne_nil_of_nonws (s : Str) (h : hasNonWs s = true) : strip s ≠ [] :=
  rstrip_ne_nil_of_nonws _ ((hasNonWs_lstrip s).trans h)

theorem strip_eq_nil_of_allWs (x : Str) (h : x.all isWs = true) : strip x = [] := by
  rw [strip, lstrip_allWs x h]; rfl

theorem strip_append_allWs_of_nonws (J sfx : Str) (hJ : hasNonWs J = true) (hs : sfx.all isWs = true) :
    strip (J ++ sfx) = strip J := by
  rw [strip, strip, lstrip_append_of_nonws J sfx hJ, rstrip_append_allWs _ _ hs]

theorem hasNonWs_strip (s : Str) : hasNonWs (strip s) = hasNonWs s := by
  rw [← hasNonWs_lstrip s, strip]
  cases h : lstrip s with
  | nil => rfl
  | cons c r =>
    have hc := lstrip_head_nonws s c r h
    rw [rstrip_cons_nonws c r hc, hasNonWs_of_mem _ c List.mem_cons_self hc, hasNonWs_of_mem _ c List.mem_cons_self hc]

theorem strip_decorated (pre core post : Str) (hpre : pre.all isWs = true) (hpost : post.all isWs = true)
    (hh : ∀ c, core.head? = some c → isWs c = false) (hl : ∀ c, core.getLast? = some c → isWs c = false) :
    strip (pre ++ (core ++ post)) = core := by
  rw [strip, lstrip_append_allWs pre _ hpre]
  cases core with
  | nil => rw [List.nil_append, lstrip_allWs post hpost]; rfl
  | cons c r =>
    rw [List.cons_append, lstrip_cons_nonws c _ (hh c rfl), ← List.cons_append, rstrip_append_allWs _ _ hpost]
    cases hlast : (c :: r).getLast? with
    | none => cases List.getLast?_eq_none_iff.mp hlast
    | some z => exact rstrip_of_last_nonws _ z hlast (hl z hlast)

theorem head?_strip (s : Str) : (strip s).head? = (lstrip s).head? := by
  rw [strip]
  cases h : lstrip s with
  | nil => rfl
  | cons c r => rw [rstrip_cons_nonws c r (lstrip_head_nonws s c r h)]; rfl

/-! unquote -/

theorem unquote_append (a b : Str) : unquote (a ++ b) = unquote a ++ unquote b := List.filter_append ..

theorem unquote_id (s : Str) (h : '"' ∉ s) : unquote s = s :=
  List.filter_eq_self.mpr fun _ hc => bne_iff_ne.mpr fun e => h (e ▸ hc)

theorem not_mem_unquote (s : Str) : '"' ∉ unquote s :=
  fun h => absurd rfl (bne_iff_ne.mp (List.mem_filter.mp h).2)

theorem unquote_idem (s : Str) : unquote (unquote s) = unquote s := unquote_id _ (not_mem_unquote s)

theorem mem_unquote (s : Str) (x : Char) (h : x ∈ unquote s) : x ∈ s := (List.mem_filter.mp h).1

/-! split / join -/

theorem splitOnC_cons (c x : Char) (xs : Str) :
    splitOnC c (x :: xs) =
      if x = c then [] :: splitOnC c xs else (x :: (splitOnC c xs).headD []) :: (splitOnC c xs).tail := rfl

theorem splitOnC_ne_nil (c : Char) (s : Str) : splitOnC c s ≠ [] := by
  cases s with
  | nil => exact List.cons_ne_nil _ _
  | cons x xs => rw [splitOnC_cons]; split <;> exact List.cons_ne_nil _ _

theorem splitOnC_of_not_mem (c : Char) (w : Str) (h : c ∉ w) : splitOnC c w = [w] := by
  induction w with
  | nil => rfl
  | cons x xs ih =>
    rw [List.mem_cons, not_or] at h
    rw [splitOnC_cons, if_neg fun e => h.1 e.symm, ih h.2]; rfl

theorem splitOnC_append_sep (c : Char) (w rest : Str) (h : c ∉ w) :
    splitOnC c (w ++ c :: rest) = w :: splitOnC c rest := by
  induction w with
  | nil => exact if_pos rfl
  | cons x xs ih =>
    rw [List.mem_cons, not_or] at h
    rw [List.cons_append, splitOnC_cons, if_neg fun e => h.1 e.symm, ih h.2]; rfl

theorem joinTab_cons_cons (x y : Str) (r : List Str) : joinTab (x :: y :: r) = x ++ '\t' :: joinTab (y :: r) := rfl

theorem splitOnC_joinTab (ws : List Str) (hne : ws ≠ []) (h : ∀ w ∈ ws, '\t' ∉ w) :
    splitOnC '\t' (joinTab ws) = ws := by
  induction ws with
  | nil => exact absurd rfl hne
  | cons w r ih =>
    cases r with
    | nil => exact splitOnC_of_not_mem '\t' w (h w List.mem_cons_self)
    | cons w' r' =>
      rw [joinTab_cons_cons, splitOnC_append_sep _ _ _ (h w List.mem_cons_self),
        ih (List.cons_ne_nil _ _) (fun x hx => h x (List.mem_cons_of_mem _ hx))]

theorem unquote_joinTab (ws : List Str) : unquote (joinTab ws) = joinTab (ws.map unquote) := by
  induction ws with
  | nil => rfl
  | cons w r ih =>
    cases r with
    | nil => rfl
    | cons w' r' =>
      show unquote (w ++ '\t' :: joinTab (w' :: r')) = unquote w ++ '\t' :: joinTab ((w' :: r').map unquote)
      rw [unquote_append, ← ih]; rfl

/-! lines of tab-joined fields -/

def mapHead (g : Str → Str) : List Str → List Str
  | [] => []
  | x :: xs => g x :: xs

def mapLast (g : Str → Str) : List Str → List Str
  | [] => []
  | [x] => [g x]
  | x :: y :: r => x :: mapLast g (y :: r)

def lastOk (l : List Str) : Bool := l.getLast?.any hasNonWs

theorem mapHead_cons (g : Str → Str) (x : Str) (xs : List Str) : mapHead g (x :: xs) = g x :: xs := rfl

theorem mapLast_singleton (g : Str → Str) (x : Str) : mapLast g [x] = [g x] := rfl

theorem mapLast_cons_cons (g : Str → Str) (x y : Str) (r : List Str) :
    mapLast g (x :: y :: r) = x :: mapLast g (y :: r) := rfl

theorem lastOk_cons_cons (x y : Str) (r : List Str) : lastOk (x :: y :: r) = lastOk (y :: r) := rfl

theorem hasNonWs_joinTab_of_lastOk (l : List Str) (h : lastOk l = true) : hasNonWs (joinTab l) = true := by
  induction l with
  | nil => cases h
  | cons x xs ih =>
    cases xs with
    | nil => exact h
    | cons y r => rw [joinTab_cons_cons, hasNonWs_append, hasNonWs_cons_of_tail _ _ (ih h), Bool.or_true]

theorem hasNonWs_joinTab_of_head (a : Str) (rest : List Str) (h : hasNonWs a = true) :
    hasNonWs (joinTab (a :: rest)) = true := by
  cases rest with
  | nil => exact h
  | cons y r => rw [joinTab_cons_cons, hasNonWs_append, h, Bool.true_or]

theorem lstrip_joinTab (a : Str) (rest : List Str) (h : hasNonWs a = true) :
    lstrip (joinTab (a :: rest)) = joinTab (lstrip a :: rest) := by
  cases rest with
  | nil => rfl
  | cons y r => exact lstrip_append_of_nonws _ _ h

theorem mapLast_ne_nil (g : Str → Str) (l : List Str) (h : l ≠ []) : mapLast g l ≠ [] := by
  match l, h with
  | [_], _ => exact List.cons_ne_nil _ _
  | _ :: _ :: _, _ => exact List.cons_ne_nil _ _

theorem rstrip_joinTab (l : List Str) (h : lastOk l = true) : rstrip (joinTab l) = joinTab (mapLast rstrip l) := by
  induction l with
  | nil => rfl
  | cons x xs ih =>
    cases xs with
    | nil => rfl
    | cons y r =>
      have hJ := hasNonWs_joinTab_of_lastOk (y :: r) h
      rw [joinTab_cons_cons, mapLast_cons_cons, rstrip_append_of_nonws _ _ (hasNonWs_cons_of_tail _ _ hJ),
        rstrip_cons_of_ne_nil _ _ (rstrip_ne_nil_of_nonws _ hJ), ih h]
      cases hm : mapLast rstrip (y :: r) with
      | nil => exact absurd hm (mapLast_ne_nil _ _ (List.cons_ne_nil _ _))
      | cons z zs => rfl

theorem forall_mapHead {P : Str → Prop} (g : Str → Str) (hg : ∀ x, P x → P (g x)) (l : List Str)
    (h : ∀ x ∈ l, P x) : ∀ x ∈ mapHead g l, P x := by
  cases l with
  | nil => exact h
  | cons a r =>
    intro x hx
    rcases List.mem_cons.mp hx with rfl | hx
    · exact hg a (h a List.mem_cons_self)
    · exact h x (List.mem_cons_of_mem _ hx)

theorem forall_mapLast {P : Str → Prop} (g : Str → Str) (hg : ∀ x, P x → P (g x)) (l : List Str)
    (h : ∀ x ∈ l, P x) : ∀ x ∈ mapLast g l, P x := by
  induction l with
  | nil => exact h
  | cons a r ih =>
    cases r with
    | nil =>
      intro x hx
      rw [List.mem_singleton.mp hx]
      exact hg a (h a List.mem_cons_self)
    | cons b r' =>
      intro x hx
      rcases List.mem_cons.mp hx with rfl | hx
      · exact h x List.mem_cons_self
      · exact ih (fun y hy => h y (List.mem_cons_of_mem _ hy)) x hx

theorem map_mapHead (g h : Str → Str) (l : List Str) (hh : ∀ y, h (g y) = h y) :
    (mapHead g l).map h = l.map h := by
  cases l with
  | nil => rfl
  | cons a r => rw [mapHead_cons, List.map_cons, List.map_cons, hh]

theorem map_mapLast (g h : Str → Str) (l : List Str) (hh : ∀ y, h (g y) = h y) :
    (mapLast g l).map h = l.map h := by
  induction l with
  | nil => rfl
  | cons a r ih =>
    cases r with
    | nil => rw [mapLast_singleton, List.map_cons, List.map_cons, hh]
    | cons b r' => rw [mapLast_cons_cons, List.map_cons, List.map_cons, ih]

theorem lastOk_mapHead_lstrip (a : Str) (rest : List Str) (h : lastOk (a :: rest) = true) :
    lastOk (mapHead lstrip (a :: rest)) = true := by
  cases rest with
  | nil => exact (hasNonWs_lstrip a).trans h
  | cons b r' => exact h

theorem strip_joinTab (a : Str) (rest : List Str) (ha : hasNonWs a = true) (hl : lastOk (a :: rest) = true) :
    strip (joinTab (a :: rest)) = joinTab (mapLast rstrip (mapHead lstrip (a :: rest))) := by
  rw [strip, lstrip_joinTab a rest ha]
  exact rstrip_joinTab _ (lastOk_mapHead_lstrip a rest hl)

theorem head?_joinTab (a : Str) (rest : List Str) (h : a ≠ []) : (joinTab (a :: rest)).head? = a.head? := by
  cases rest with
  | nil => rfl
  | cons y r =>
    cases a with
    | nil => exact absurd rfl h
    | cons c cs => rfl

theorem head?_strip_joinTab (a : Str) (rest : List Str) (ha : hasNonWs a = true) :
    (strip (joinTab (a :: rest))).head? = (strip a).head? := by
  rw [head?_strip, lstrip_joinTab _ _ ha, head?_joinTab _ _ (lstrip_ne_nil_of_nonws _ ha), head?_strip]

theorem getLast?_joinTab (l : List Str) (z : Str) (hl : l.getLast? = some z) (hz : z ≠ []) :
    (joinTab l).getLast? = z.getLast? := by
  induction l with
  | nil => cases hl
  | cons x xs ih =>
    cases xs with
    | nil => rw [List.getLast?_singleton, Option.some.injEq] at hl; rw [← hl]; rfl
    | cons y r =>
      rw [List.getLast?_cons_cons] at hl
      have hne : joinTab (y :: r) ≠ [] := by
        intro e
        have := ih hl
        rw [e, List.getLast?_nil] at this
        exact hz (List.getLast?_eq_none_iff.mp this.symm)
      rw [joinTab_cons_cons, List.getLast?_append, List.getLast?_cons_of_ne_nil hne, ih hl]
      cases hg : z.getLast? with
      | none => exact absurd (List.getLast?_eq_none_iff.mp hg) hz
      | some c => rfl

theorem mem_joinTab (l : List Str) (c : Char) (h : c ∈ joinTab l) : c = '\t' ∨ ∃ w ∈ l, c ∈ w := by
  induction l with
  | nil => cases h
  | cons a r ih =>
    cases r with
    | nil => exact Or.inr ⟨a, List.mem_cons_self, h⟩
    | cons b r' =>
      rcases List.mem_append.mp h with h | h
      · exact Or.inr ⟨a, List.mem_cons_self, h⟩
      · rcases List.mem_cons.mp h with h | h
        · exact Or.inl h
        · exact (ih h).imp_right (fun ⟨w, hw, hc⟩ => ⟨w, List.mem_cons_of_mem _ hw, hc⟩)

theorem joinTab_append (a : List Str) (y : Str) (ys : List Str) (ha : a ≠ []) :
    joinTab (a ++ y :: ys) = joinTab a ++ '\t' :: joinTab (y :: ys) := by
  induction a with
  | nil => exact absurd rfl ha
  | cons x xs ih =>
    cases xs with
    | nil => rfl
    | cons z zs =>
      rw [List.cons_append, List.cons_append, joinTab_cons_cons, joinTab_cons_cons, ← List.cons_append,
        ih (List.cons_ne_nil _ _), List.append_assoc]
      rfl

theorem allWs_joinTab (l : List Str) (h : l.all (·.all isWs) = true) : (joinTab l).all isWs = true := by
  induction l with
  | nil => rfl
  | cons x xs ih =>
    rw [List.all_cons, Bool.and_eq_true] at h
    cases xs with
    | nil => exact h.1
    | cons y ys => rw [joinTab_cons_cons, List.all_append, h.1, List.all_cons, isWs_tab, ih h.2]; rfl

/-! rows ending in empty fields -/

/-- trailing all-blank fields dropped (what the line-level strip does to a tab-joined line) -/
def dtb : List Str → List Str
  | [] => []
  | x :: r =>
    let r' := dtb r
    if r'.isEmpty && x.all isWs then [] else x :: r'

theorem dtb_cons (x : Str) (xs : List Str) :
    dtb (x :: xs) = if (dtb xs).isEmpty && x.all isWs then [] else x :: dtb xs := rfl

theorem dtb_cons_nonws (a : Str) (r : List Str) (h : hasNonWs a = true) : dtb (a :: r) = a :: dtb r := by
  rw [dtb_cons, not_allWs_of_hasNonWs a h, Bool.and_false]; rfl

theorem dtb_eq (l : List Str) : dtb l = dropTrailing (·.all isWs) l := eq_dropTrailing _ dtb rfl dtb_cons l

theorem dtb_sublist (l : List Str) : (dtb l).Sublist l := dtb_eq l ▸ dropTrailing_sublist _ l

theorem dtb_append_dropped (l : List Str) : ∃ sfx, sfx.all (·.all isWs) = true ∧ dtb l ++ sfx = l :=
  dtb_eq l ▸ dropTrailing_append_dropped _ l

theorem hasNonWs_getLast?_dtb (l : List Str) (z : Str) (h : (dtb l).getLast? = some z) : hasNonWs z = true :=
  Decidable.by_contra fun hn =>
    Bool.false_ne_true ((getLast?_dropTrailing _ l z (dtb_eq l ▸ h)).symm.trans (allWs_of_not_hasNonWs z hn))

theorem mem_dtb (l : List Str) (x : Str) (h : x ∈ dtb l) : x ∈ l := (dtb_sublist l).subset h

theorem length_dtb_le (l : List Str) : (dtb l).length ≤ l.length := (dtb_sublist l).length_le

theorem joinTab_dtb (l : List Str) (h : dtb l ≠ []) :
    ∃ sfx : Str, sfx.all isWs = true ∧ joinTab l = joinTab (dtb l) ++ sfx := by
  obtain ⟨sfx, hs, he⟩ := dtb_append_dropped l
  cases sfx with
  | nil => exact ⟨[], rfl, by rw [List.append_nil, (List.append_nil _).symm.trans he]⟩
  | cons y ys =>
    refine ⟨'\t' :: joinTab (y :: ys), ?_, ?_⟩
    · rw [List.all_cons, isWs_tab, allWs_joinTab _ hs]; rfl
    · rw [← joinTab_append _ _ _ h, he]

theorem lastOk_dtb (l : List Str) (h : dtb l ≠ []) : lastOk (dtb l) = true := by
  cases hz : (dtb l).getLast? with
  | none => exact absurd (List.getLast?_eq_none_iff.mp hz) h
  | some z => rw [lastOk, hz]; exact hasNonWs_getLast?_dtb l z hz

theorem map_strip_of_allWs (l : List Str) (h : l.all (·.all isWs) = true) :
    l.map strip = List.replicate l.length [] :=
  List.eq_replicate_iff.mpr ⟨List.length_map _, fun b hb => by
    obtain ⟨x, hx, rfl⟩ := List.mem_map.mp hb
    exact strip_eq_nil_of_allWs x (List.all_eq_true.mp h x hx)⟩

theorem map_strip_dtb (l : List Str) : ∃ k, l.map strip = (dtb l).map strip ++ List.replicate k [] := by
  obtain ⟨sfx, hs, he⟩ := dtb_append_dropped l
  exact ⟨sfx.length, by rw [← map_strip_of_allWs sfx hs, ← List.map_append, he]⟩

theorem split_strip_joinTab (a : Str) (rest : List Str) (ha : hasNonWs a = true) (ht : ∀ v ∈ a :: rest, '\t' ∉ v) :
    splitOnC '\t' (strip (joinTab (a :: rest))) = mapLast rstrip (mapHead lstrip (dtb (a :: rest))) := by
  have hd : dtb (a :: rest) = a :: dtb rest := dtb_cons_nonws a rest ha
  have hne : dtb (a :: rest) ≠ [] := hd ▸ List.cons_ne_nil _ _
  obtain ⟨sfx, hsfx, hj⟩ := joinTab_dtb (a :: rest) hne
  have hlk := lastOk_dtb (a :: rest) hne
  rw [hj, strip_append_allWs_of_nonws _ _ (hasNonWs_joinTab_of_lastOk _ hlk) hsfx]
  rw [hd] at hlk ⊢
  rw [strip_joinTab a (dtb rest) ha hlk]
  refine splitOnC_joinTab _ (mapLast_ne_nil _ _ (List.cons_ne_nil _ _)) ?_
  refine forall_mapLast _ (fun x hx hm => hx (mem_rstrip _ _ hm)) _ (forall_mapHead _ (fun x hx hm => hx (mem_lstrip _ _ hm)) _ ?_)
  intro v hv
  exact ht v (mem_dtb _ _ (hd ▸ hv))

end Chars

/-! ### fields of the grammar -/

theorem blankOnly_spec (s : Str) (h : blankOnly s = true) : s.all isWs = true ∧ '\t' ∉ s ∧ '"' ∉ s := by
  simp only [blankOnly, List.all_eq_true, Bool.and_eq_true, bne_iff_ne, ne_eq] at h
  refine ⟨List.all_eq_true.mpr fun c hc => (h c hc).1, fun hm => (h _ hm).2 rfl, fun hm => ?_⟩
  have := (h _ hm).1
  rw [isWs_quote] at this
  cases this

theorem noneOf_spec (s : Str) (h : noneOf (fun c => c == '\t' || c == '"') s = true) : '\t' ∉ s ∧ '"' ∉ s := by
  simp only [noneOf, List.all_eq_true, Bool.not_eq_true', Bool.or_eq_false_iff, beq_eq_false_iff_ne, ne_eq] at h
  exact ⟨fun hm => (h _ hm).1 rfl, fun hm => (h _ hm).2 rfl⟩

theorem cleanOk_spec (s : Str) (h : cleanOk s = true) :
    '\t' ∉ s ∧ '"' ∉ s ∧ (∀ c, s.head? = some c → isWs c = false) ∧ (∀ c, s.getLast? = some c → isWs c = false) := by
  simp only [cleanOk, Bool.and_eq_true] at h
  obtain ⟨⟨h1, h2⟩, h3⟩ := h
  refine ⟨(noneOf_spec s h1).1, (noneOf_spec s h1).2, ?_, ?_⟩
  · intro c hc; rw [hc] at h2; exact eq_false_of_not h2
  · intro c hc; rw [hc] at h3; exact eq_false_of_not h3

theorem Field.ok_spec (f : Field) (h : f.ok = true) :
    blankOnly f.pre = true ∧ blankOnly f.post = true ∧ cleanOk f.clean = true := by
  simp only [Field.ok, Bool.and_eq_true] at h
  exact ⟨h.1.1, h.1.2, h.2⟩

/-- the content of a field as it is written (`q = false`) or with the quotes removed (`q = true`) -/
def Field.mid (q : Bool) (f : Field) : Str := if q || !f.quoted then f.clean else '"' :: (f.clean ++ ['"'])

theorem Field.written_eq (f : Field) : f.written = f.pre ++ (f.mid false ++ f.post) := by
  obtain ⟨pre, q, clean, post⟩ := f
  cases q <;> exact List.append_assoc _ _ _

theorem Field.expect_eq (o : Opts) (f : Field) :
    f.expect o = (if o.suppress then f.pre else []) ++ f.mid o.stripQuotes ++ (if o.suppress then f.post else []) := rfl

theorem unquote_mid (q : Bool) (f : Field) (h : '"' ∉ f.clean) : unquote (f.mid q) = f.clean := by
  unfold Field.mid
  split
  · exact unquote_id _ h
  · rw [← List.singleton_append, unquote_append, unquote_append, unquote_id _ h, show unquote ['"'] = [] from rfl,
      List.append_nil]
    rfl

theorem mid_spec (q : Bool) (f : Field) (hc : cleanOk f.clean = true) :
    '\t' ∉ f.mid q ∧ (∀ c, (f.mid q).head? = some c → isWs c = false) ∧
      (∀ c, (f.mid q).getLast? = some c → isWs c = false) := by
  obtain ⟨ht, _, hh, hl⟩ := cleanOk_spec _ hc
  unfold Field.mid
  split
  · exact ⟨ht, hh, hl⟩
  · refine ⟨fun hm => ?_, fun c h => ?_, fun c h => ?_⟩
    · rcases List.mem_cons.mp hm with hm | hm
      · cases hm
      · rcases List.mem_append.mp hm with hm | hm
        · exact ht hm
        · cases List.mem_singleton.mp hm
    · cases h; exact isWs_quote
    · rw [← List.cons_append, List.getLast?_append, List.getLast?_singleton, Option.some_or] at h
      cases h; exact isWs_quote

def uq (o : Opts) (x : Str) : Str := if o.stripQuotes then unquote x else x

def sb (o : Opts) (y : Str) : Str := if o.suppress then y else strip y

theorem stripF_eq (o : Opts) (x : Str) : stripF o x = sb o (uq o x) := rfl

theorem sb_of_suppress {o : Opts} (hs : o.suppress = true) : sb o = fun y => y :=
  funext fun y => by rw [sb, hs]; rfl

theorem sb_of_strip {o : Opts} (hs : o.suppress = false) : sb o = strip :=
  funext fun y => by rw [sb, hs]; rfl

theorem stripF_of_suppress {o : Opts} (hs : o.suppress = true) (x : Str) : stripF o x = uq o x := by
  rw [stripF_eq, sb_of_suppress hs]

theorem stripF_of_strip {o : Opts} (hs : o.suppress = false) (x : Str) : stripF o x = strip (uq o x) := by
  rw [stripF_eq, sb_of_strip hs]

theorem uq_joinTab (o : Opts) (ws : List Str) : uq o (joinTab ws) = joinTab (ws.map (uq o)) := by
  unfold uq; split
  · exact unquote_joinTab ws
  · rw [List.map_id']

def QF (o : Opts) (x : Str) : Prop := o.stripQuotes = true → '"' ∉ x

theorem QF_uq (o : Opts) (x : Str) : QF o (uq o x) := by
  intro h; rw [uq, if_pos h]; exact not_mem_unquote x

theorem uq_of_QF (o : Opts) (x : Str) (h : QF o x) : uq o x = x := by
  unfold uq; split
  · rename_i hq; exact unquote_id x (h hq)
  · rfl

theorem stripF_of_QF (o : Opts) (x : Str) (h : QF o x) : stripF o x = sb o x := by
  rw [stripF_eq, uq_of_QF o x h]

theorem uq_written (o : Opts) (f : Field) (h : f.ok = true) :
    uq o f.written = f.pre ++ (f.mid o.stripQuotes ++ f.post) := by
  obtain ⟨hpre, hpost, hclean⟩ := f.ok_spec h
  rw [uq, Field.written_eq]
  cases o.stripQuotes with
  | false => rfl
  | true =>
    rw [if_pos rfl, unquote_append, unquote_append, unquote_id _ (blankOnly_spec _ hpre).2.2,
      unquote_id _ (blankOnly_spec _ hpost).2.2, unquote_mid _ _ (cleanOk_spec _ hclean).2.1]
    rfl

theorem stripF_written (o : Opts) (f : Field) (h : f.ok = true) : stripF o f.written = f.expect o := by
  rw [stripF_eq, uq_written o f h, Field.expect_eq, sb]
  obtain ⟨hpre, hpost, hclean⟩ := f.ok_spec h
  cases o.suppress with
  | true => exact (List.append_assoc _ _ _).symm
  | false =>
    obtain ⟨_, hh, hl⟩ := mid_spec o.stripQuotes f hclean
    rw [if_neg Bool.false_ne_true, strip_decorated _ _ _ (blankOnly_spec _ hpre).1 (blankOnly_spec _ hpost).1 hh hl]
    exact (List.append_nil _).symm

theorem tab_not_mem_uq_written (o : Opts) (f : Field) (h : f.ok = true) : '\t' ∉ uq o f.written := by
  rw [uq_written o f h]
  obtain ⟨hpre, hpost, hclean⟩ := f.ok_spec h
  intro hm
  rcases List.mem_append.mp hm with hm | hm
  · exact (blankOnly_spec _ hpre).2.1 hm
  · rcases List.mem_append.mp hm with hm | hm
    · exact (mid_spec _ f hclean).1 hm
    · exact (blankOnly_spec _ hpost).2.1 hm

theorem hasNonWs_uq_written (o : Opts) (f : Field) (hok : f.ok = true) (hc : f.clean ≠ []) :
    hasNonWs (uq o f.written) = true := by
  rw [uq_written o f hok, hasNonWs_append, hasNonWs_append]
  have hm : (f.mid o.stripQuotes) ≠ [] := by
    unfold Field.mid; split
    · exact hc
    · exact List.cons_ne_nil _ _
  cases hm' : f.mid o.stripQuotes with
  | nil => exact absurd hm' hm
  | cons c r =>
    have := (mid_spec o.stripQuotes f (f.ok_spec hok).2.2).2.1 c (by rw [hm']; rfl)
    rw [hasNonWs_of_mem (c :: r) c List.mem_cons_self this, Bool.true_or, Bool.or_true]

/-! ### padding -/

theorem take_append_replicate {β : Type} (x : β) (A : List β) (n m m' : Nat) (h : n ≤ A.length + m)
    (h' : n ≤ A.length + m') : (A ++ List.replicate m x).take n = (A ++ List.replicate m' x).take n := by
  rw [List.take_append, List.take_append, List.take_replicate, List.take_replicate,
    Nat.min_eq_left (Nat.sub_le_iff_le_add'.mpr h), Nat.min_eq_left (Nat.sub_le_iff_le_add'.mpr h')]

theorem take_pad_append_replicate (n k : Nat) (A : List Str) :
    (pad n (A ++ List.replicate k [])).take n = (pad n A).take n := by
  rw [pad, pad, List.append_assoc, List.replicate_append_replicate]
  have hle : ∀ m : Nat, n ≤ m + (n - m) := fun m => Nat.add_comm _ _ ▸ Nat.le_add_of_sub_le (Nat.le_refl _)
  refine take_append_replicate _ _ _ _ _ ?_ (hle _)
  rw [List.length_append, List.length_replicate, ← Nat.add_assoc]
  exact hle _

theorem getElem?_pad (n : Nat) (l : List Str) (j : Nat) (hj : j < n) : (pad n l)[j]? = some ((l[j]?).getD []) := by
  unfold pad
  by_cases h : j < l.length
  · rw [List.getElem?_append_left h, List.getElem?_eq_getElem h]; rfl
  · rw [List.getElem?_append_right (Nat.le_of_not_lt h), List.getElem?_eq_none (Nat.le_of_not_lt h),
      List.getElem?_replicate, if_pos (Nat.sub_lt_sub_right (Nat.le_of_not_lt h) hj)]
    rfl

theorem headD_pad (n : Nat) (l : List Str) : (pad n l).headD [] = l.headD [] := by
  cases l with
  | nil => cases n <;> rfl
  | cons a r => rfl

/-! ### one step of the line loop -/

theorem stepLine_blank (o : Opts) (st : PState) (raw : Str) (h : strip (stripF o raw) = []) :
    stepLine o st raw = st := by
  have : ((stripF o raw).isEmpty || (o.suppress && (strip (stripF o raw)).isEmpty)) = true := by
    cases hs : o.suppress with
    | false =>
      rw [stripF_of_strip hs, strip_idem] at h
      rw [stripF_of_strip hs, h]; rfl
    | true => rw [h]; exact Bool.or_true _
  simp only [stepLine, this, if_true]

theorem stepLine_guard (o : Opts) (line : Str) (h : hasNonWs line = true) :
    (line.isEmpty || (o.suppress && (strip line).isEmpty)) = false := by
  rw [List.isEmpty_eq_false_iff.mpr (hasNonWs_ne_nil _ h),
    List.isEmpty_eq_false_iff.mpr (strip_ne_nil_of_nonws _ h), Bool.and_false]
  rfl

theorem stepLine_hash (o : Opts) (st : PState) (raw rest : Str) (hl : stripF o raw = '#' :: rest) :
    stepLine o st raw = if st.header.isEmpty then { st with header := splitOnC '\t' (strip rest) } else st := by
  have := stepLine_guard o _ (hasNonWs_of_mem ('#' :: rest) '#' List.mem_cons_self isWs_hash)
  simp only [stepLine, hl, this, Bool.false_eq_true, if_false]

theorem stepLine_data (o : Opts) (st : PState) (raw : Str) (hnw : hasNonWs (stripF o raw) = true)
    (hh : (stripF o raw).head? ≠ some '#') :
    stepLine o st raw =
      { st with rows := st.rows ++ [pad st.header.length ((splitOnC '\t' (stripF o raw)).map (stripF o))] } := by
  simp only [stepLine, stepLine_guard o _ hnw, Bool.false_eq_true, if_false]
  split
  · rename_i rest heq
    rw [heq] at hh
    exact absurd rfl hh
  · rfl

/-! ### a data row of the grammar -/

theorem rowOkWide_spec (o : Opts) (fs : List Field) (h : rowOkWide o fs = true) :
    ∃ f0 rest, fs = f0 :: rest ∧ (∀ f ∈ fs, f.ok = true) ∧ f0.clean ≠ [] ∧ (f0.expect o).head? ≠ some '#' := by
  simp only [rowOkWide, Bool.and_eq_true, List.all_eq_true] at h
  obtain ⟨hall, hhead⟩ := h
  cases fs with
  | nil => cases hhead
  | cons f0 rest =>
    simp only [List.head?_cons, Bool.and_eq_true, Bool.not_eq_true', List.isEmpty_eq_false_iff, bne_iff_ne, ne_eq]
      at hhead
    exact ⟨f0, rest, rfl, hall, hhead.1, hhead.2⟩

theorem map_stripF_kept (o : Opts) (hs : o.suppress = false) (l : List Str) (hq : ∀ v ∈ l, QF o v) :
    (mapLast rstrip (mapHead lstrip l)).map (stripF o) = l.map strip := by
  have : ∀ x ∈ mapLast rstrip (mapHead lstrip l), QF o x :=
    forall_mapLast _ (fun x hx hq hm => hx hq (mem_rstrip _ _ hm)) _
      (forall_mapHead _ (fun x hx hq hm => hx hq (mem_lstrip _ _ hm)) _ hq)
  rw [List.map_congr_left (fun x hx => by rw [stripF_of_strip hs, uq_of_QF o x (this x hx)]),
    map_mapLast rstrip strip _ strip_rstrip, map_mapHead lstrip strip _ strip_lstrip]

/-- the `k` empty texts at the end are the ones the line-level strip removes -/
theorem line_fields (o : Opts) (a : Str) (rest : List Str) (ha : hasNonWs a = true)
    (ht : ∀ v ∈ a :: rest, '\t' ∉ v) (hq : ∀ v ∈ a :: rest, QF o v) :
    hasNonWs (sb o (joinTab (a :: rest))) = true ∧ (sb o (joinTab (a :: rest))).head? = (sb o a).head? ∧
    ∃ k, (a :: rest).map (sb o) =
      (splitOnC '\t' (sb o (joinTab (a :: rest)))).map (stripF o) ++ List.replicate k [] := by
  cases hs : o.suppress with
  | true =>
    rw [sb_of_suppress hs]
    refine ⟨hasNonWs_joinTab_of_head _ _ ha, head?_joinTab _ _ (hasNonWs_ne_nil _ ha), 0, ?_⟩
    rw [splitOnC_joinTab _ (List.cons_ne_nil _ _) ht, List.replicate_zero, List.append_nil]
    exact List.map_congr_left fun v hv => by rw [stripF_of_QF o v (hq v hv), sb_of_suppress hs]
  | false =>
    rw [sb_of_strip hs]
    refine ⟨(hasNonWs_strip _).trans (hasNonWs_joinTab_of_head _ _ ha), head?_strip_joinTab _ _ ha, ?_⟩
    rw [split_strip_joinTab _ _ ha ht, map_stripF_kept o hs _ fun v hv => hq v (mem_dtb _ _ hv)]
    exact map_strip_dtb _

theorem row_fields (o : Opts) (fs : List Field) (h : rowOkWide o fs = true) :
    hasNonWs (stripF o (joinTab (fs.map Field.written))) = true ∧
    (stripF o (joinTab (fs.map Field.written))).head? ≠ some '#' ∧
    ∃ k, fs.map (Field.expect o) =
      (splitOnC '\t' (stripF o (joinTab (fs.map Field.written)))).map (stripF o) ++ List.replicate k [] := by
  obtain ⟨f0, rest, rfl, hall, hc0, hhash⟩ := rowOkWide_spec o fs h
  -- the texts between the tabs after the line-level quote removal
  have hline : stripF o (joinTab ((f0 :: rest).map Field.written)) =
      sb o (joinTab (uq o f0.written :: rest.map (fun f => uq o f.written))) := by
    rw [stripF_eq, uq_joinTab, List.map_map]; rfl
  have hmem : ∀ v ∈ uq o f0.written :: rest.map (fun f => uq o f.written), ∃ f ∈ f0 :: rest, uq o f.written = v :=
    fun v hv => List.mem_map.mp (show v ∈ (f0 :: rest).map (fun f => uq o f.written) from hv)
  obtain ⟨h1, h2, k, h3⟩ := line_fields o (uq o f0.written) (rest.map fun f => uq o f.written)
    (hasNonWs_uq_written o f0 (hall f0 List.mem_cons_self) hc0)
    (fun v hv => by obtain ⟨f, hf, rfl⟩ := hmem v hv; exact tab_not_mem_uq_written o f (hall f hf))
    (fun v hv => by obtain ⟨f, _, rfl⟩ := hmem v hv; exact QF_uq o _)
  rw [hline]
  refine ⟨h1, ?_, k, ?_⟩
  · rw [h2, ← stripF_eq, stripF_written o f0 (hall f0 List.mem_cons_self)]; exact hhash
  · rw [← h3]
    show _ = ((f0 :: rest).map fun f => uq o f.written).map (sb o)
    rw [List.map_map]
    exact List.map_congr_left fun f hf => (stripF_written o f (hall f hf)).symm

def parsedRow (o : Opts) (n : Nat) (fs : List Field) : List Str :=
  pad n ((splitOnC '\t' (stripF o (GLine.row fs).render)).map (stripF o))

theorem take_parsedRow (o : Opts) (n : Nat) (fs : List Field) (h : rowOkWide o fs = true) :
    (parsedRow o n fs).take n = (rowVals o n fs).take n := by
  obtain ⟨_, _, k, hk⟩ := row_fields o fs h
  rw [rowVals, hk]
  exact (take_pad_append_replicate n k _).symm

/-! ### the step for each kind of line of the grammar -/

theorem stepLine_row (o : Opts) (st : PState) (fs : List Field) (h : rowOkWide o fs = true) :
    stepLine o st (GLine.row fs).render = { st with rows := st.rows ++ [parsedRow o st.header.length fs] } :=
  stepLine_data o st _ (row_fields o fs h).1 (row_fields o fs h).2.1

theorem stepLine_comment (o : Opts) (st : PState) (raw : Str) (h : (GLine.comment raw).ok o = true)
    (hh : st.header ≠ []) : stepLine o st (GLine.comment raw).render = st := by
  have h : (stripF o raw).head? = some '#' := beq_iff_eq.mp h
  cases hl : stripF o raw with
  | nil => rw [hl] at h; cases h
  | cons c rest =>
    rw [hl, List.head?_cons, Option.some.injEq] at h
    subst h
    show stepLine o st raw = st
    rw [stepLine_hash o st raw rest hl, List.isEmpty_eq_false_iff.mpr hh]
    rfl

theorem stepLine_blankLine (o : Opts) (st : PState) (raw : Str) (h : (GLine.blank raw).ok o = true) :
    stepLine o st (GLine.blank raw).render = st :=
  stepLine_blank o st raw (List.isEmpty_iff.mp h)

theorem hdrOk_spec (names : List Str) (trail : Str) (h : hdrOk names trail = true) :
    names ≠ [] ∧ (∀ n ∈ names, '\t' ∉ n ∧ '"' ∉ n) ∧ trail.all isWs = true ∧
    (∀ c, (joinTab names).head? = some c → isWs c = false) ∧
    (∀ c, (joinTab names).getLast? = some c → isWs c = false) := by
  simp only [hdrOk, Bool.and_eq_true, List.all_eq_true] at h
  obtain ⟨⟨⟨hn, hh⟩, hl⟩, ht⟩ := h
  cases names with
  | nil => cases hh
  | cons n0 r =>
    refine ⟨List.cons_ne_nil _ _, fun n hn' => noneOf_spec n (hn n hn'), List.all_eq_true.mpr ht, ?_, ?_⟩
    · intro c hc
      rw [List.head?_cons] at hh
      cases hn0 : n0 with
      | nil => rw [hn0] at hh; cases hh
      | cons c0 cs =>
        rw [hn0, head?_joinTab _ _ (List.cons_ne_nil _ _)] at hc
        cases hc
        rw [hn0] at hh
        exact eq_false_of_not hh
    · intro c hc
      cases hg : (n0 :: r).getLast? with
      | none => cases List.getLast?_eq_none_iff.mp hg
      | some z =>
        simp only [hg] at hl
        cases hz : z.getLast? with
        | none => simp only [hz] at hl; cases hl
        | some cz =>
          rw [getLast?_joinTab _ z hg (fun e => by rw [e] at hz; cases hz), hz] at hc
          cases hc
          rw [hz] at hl
          exact eq_false_of_not hl

theorem stepLine_header (o : Opts) (st : PState) (names : List Str) (trail : Str)
    (h : hdrOk names trail = true) (hst : st.header = []) :
    stepLine o st (GLine.header names trail).render = { st with header := names } := by
  obtain ⟨hne, hnames, htrail, hhead, hlast⟩ := hdrOk_spec names trail h
  have hraw : uq o ('#' :: (joinTab names ++ trail)) = '#' :: (joinTab names ++ trail) := by
    refine uq_of_QF _ _ fun _ hm => ?_
    rcases List.mem_cons.mp hm with hm | hm
    · cases hm
    · rcases List.mem_append.mp hm with hm | hm
      · rcases mem_joinTab _ _ hm with hm | ⟨n, hn, hm⟩
        · cases hm
        · exact (hnames n hn).2 hm
      · have := List.all_eq_true.mp htrail _ hm
        rw [isWs_quote] at this
        cases this
  -- in either mode the loop sees `#`, the names, and blanks that the strip of the names removes
  have hl : ∃ t : Str, t.all isWs = true ∧ stripF o ('#' :: (joinTab names ++ trail)) = '#' :: (joinTab names ++ t) := by
    cases hs : o.suppress with
    | true => exact ⟨trail, htrail, by rw [stripF_of_suppress hs, hraw]⟩
    | false =>
      refine ⟨[], rfl, ?_⟩
      rw [stripF_of_strip hs, hraw, List.append_nil]
      refine strip_decorated [] ('#' :: joinTab names) trail rfl htrail (fun c hc => ?_) (fun c hc => ?_)
      · cases hc; exact isWs_hash
      · cases hj : joinTab names with
        | nil => rw [hj] at hc; cases hc; exact isWs_hash
        | cons x xs => rw [hj, List.getLast?_cons_cons] at hc; exact hlast c (hj ▸ hc)
  obtain ⟨t, ht, hl⟩ := hl
  show stepLine o st ('#' :: (joinTab names ++ trail)) = _
  rw [stepLine_hash o st _ _ hl, hst, show strip (joinTab names ++ t) = joinTab names from
    strip_decorated [] _ t rfl ht hhead hlast, splitOnC_joinTab names hne fun n hn => (hnames n hn).1]
  rfl

/-! ### the whole loop over a file of the grammar -/

theorem fileRows_cons_comment (raw : Str) (r : List GLine) : fileRows (GLine.comment raw :: r) = fileRows r := rfl
theorem fileRows_cons_blank (raw : Str) (r : List GLine) : fileRows (GLine.blank raw :: r) = fileRows r := rfl
theorem fileRows_cons_header (n : List Str) (t : Str) (r : List GLine) : fileRows (GLine.header n t :: r) = fileRows r := rfl
theorem fileRows_cons_row (fs : List Field) (r : List GLine) : fileRows (GLine.row fs :: r) = fs :: fileRows r := rfl

theorem fileRows_append (a b : List GLine) : fileRows (a ++ b) = fileRows a ++ fileRows b :=
  List.filterMap_append

theorem eq_blank_of_isBlankLine (l : GLine) (h : isBlankLine l = true) : ∃ raw, l = .blank raw := by
  cases l with
  | blank raw => exact ⟨raw, rfl⟩
  | header _ _ => cases h
  | comment _ => cases h
  | row _ => cases h

theorem fileRows_blanks (pre : List GLine) (hb : ∀ l ∈ pre, isBlankLine l = true) : fileRows pre = [] :=
  List.filterMap_eq_nil_iff.mpr fun l hl => by
    obtain ⟨_, rfl⟩ := eq_blank_of_isBlankLine l (hb l hl)
    rfl

theorem find_header (pre : List GLine) (names : List Str) (trail : Str) (rest : List GLine)
    (hb : ∀ l ∈ pre, isBlankLine l = true) :
    (pre ++ GLine.header names trail :: rest).find? GLine.isHeader = some (GLine.header names trail) := by
  have : pre.find? GLine.isHeader = none :=
    List.find?_eq_none.mpr fun l hl => by
      obtain ⟨_, rfl⟩ := eq_blank_of_isBlankLine l (hb l hl)
      exact Bool.false_ne_true
  rw [List.find?_append, this]
  rfl

theorem foldl_blanks (o : Opts) (st : PState) (pre : List GLine) (hb : ∀ l ∈ pre, isBlankLine l = true)
    (hok : ∀ l ∈ pre, l.okWide o = true) : (pre.map GLine.render).foldl (stepLine o) st = st := by
  induction pre with
  | nil => rfl
  | cons l r ih =>
    have hr := ih (fun l hl => hb l (List.mem_cons_of_mem _ hl)) (fun l hl => hok l (List.mem_cons_of_mem _ hl))
    obtain ⟨raw, rfl⟩ := eq_blank_of_isBlankLine l (hb _ List.mem_cons_self)
    rw [List.map_cons, List.foldl_cons, stepLine_blankLine o st raw (hok _ List.mem_cons_self), hr]

theorem foldl_body (o : Opts) (H : List Str) (hH : H ≠ []) (body : List GLine) (R : List (List Str))
    (hok : ∀ l ∈ body, l.okWide o = true) (hnh : ∀ l ∈ body, l.isHeader = false) :
    (body.map GLine.render).foldl (stepLine o) { header := H, rows := R } =
      { header := H, rows := R ++ (fileRows body).map (parsedRow o H.length) } := by
  induction body generalizing R with
  | nil => exact congrArg _ (List.append_nil R).symm
  | cons l r ih =>
    have hr1 := fun l' hl' => hok l' (List.mem_cons_of_mem _ hl')
    have hr2 := fun l' hl' => hnh l' (List.mem_cons_of_mem _ hl')
    rw [List.map_cons, List.foldl_cons]
    cases l with
    | header n t => cases hnh _ List.mem_cons_self
    | comment raw => rw [stepLine_comment o _ raw (hok _ List.mem_cons_self) hH, ih R hr1 hr2, fileRows_cons_comment]
    | blank raw => rw [stepLine_blankLine o _ raw (hok _ List.mem_cons_self), ih R hr1 hr2, fileRows_cons_blank]
    | row fs =>
      rw [stepLine_row o _ fs (hok _ List.mem_cons_self), ih _ hr1 hr2, fileRows_cons_row, List.map_cons,
        List.append_assoc]
      rfl

def FileShape (hdr0 : List Str) (f : List GLine) : Prop :=
  (hdr0 ≠ [] ∧ ∀ l ∈ f, l.isHeader = false) ∨
  (hdr0 = [] ∧ ∃ pre names trail rest, f = pre ++ GLine.header names trail :: rest ∧
     (∀ l ∈ pre, isBlankLine l = true) ∧ (∀ l ∈ rest, l.isHeader = false))

theorem fileShape_spec (hdr0 : List Str) (f : List GLine)
    (h : (if hdr0.isEmpty then
            (match f.dropWhile isBlankLine with
             | .header _ _ :: rest => rest.all (fun l => !l.isHeader)
             | _ => false)
          else f.all (fun l => !l.isHeader)) = true) : FileShape hdr0 f := by
  cases hdr0 with
  | cons a r =>
    exact Or.inl ⟨List.cons_ne_nil _ _, fun l hl => eq_false_of_not (List.all_eq_true.mp h l hl)⟩
  | nil =>
    refine Or.inr ⟨rfl, ?_⟩
    have hsplit := List.takeWhile_append_dropWhile (p := isBlankLine) (l := f)
    rw [List.isEmpty_nil, if_pos rfl] at h
    split at h
    · rename_i names trail rest hd
      rw [hd] at hsplit
      exact ⟨_, names, trail, rest, hsplit.symm, fun l hl => List.all_eq_true.mp List.all_takeWhile l hl,
        fun l hl => eq_false_of_not (List.all_eq_true.mp h l hl)⟩
    · cases h

theorem fileOk_spec (o : Opts) (hdr0 : List Str) (f : List GLine) (h : fileOk o hdr0 f = true) :
    (∀ l ∈ f, l.ok o = true) ∧ FileShape hdr0 f := by
  rw [fileOk, Bool.and_eq_true] at h
  exact ⟨List.all_eq_true.mp h.1, fileShape_spec hdr0 f h.2⟩

theorem fileOkWide_spec (o : Opts) (hdr0 : List Str) (f : List GLine) (h : fileOkWide o hdr0 f = true) :
    (∀ l ∈ f, l.okWide o = true) ∧ FileShape hdr0 f := by
  rw [fileOkWide, Bool.and_eq_true] at h
  exact ⟨List.all_eq_true.mp h.1, fileShape_spec hdr0 f h.2⟩

/-- the strict grammar only adds a demand on the last written field of a row -/
theorem okWide_of_ok (o : Opts) (l : GLine) (h : l.ok o = true) : l.okWide o = true := by
  cases l with
  | row fs => exact (Bool.and_eq_true_iff.mp h).1
  | header _ _ => exact h
  | comment _ => exact h
  | blank _ => exact h

theorem mem_fileRows_ok (o : Opts) (f : List GLine) (hok : ∀ l ∈ f, l.okWide o = true) (fs : List Field)
    (h : fs ∈ fileRows f) : rowOkWide o fs = true := by
  obtain ⟨l, hl, hr⟩ := List.mem_filterMap.mp h
  cases l with
  | row fs' => cases hr; exact hok _ hl
  | header _ _ => cases hr
  | comment _ => cases hr
  | blank _ => cases hr

theorem foldl_file (o : Opts) (hdr0 : List Str) (f : List GLine) (h : fileOkWide o hdr0 f = true) :
    (f.map GLine.render).foldl (stepLine o) { header := hdr0, rows := [] } =
      { header := fileHeader hdr0 f, rows := (fileRows f).map (parsedRow o (fileHeader hdr0 f).length) } ∧
    fileHeader hdr0 f ≠ [] := by
  obtain ⟨hok, hcase⟩ := fileOkWide_spec o hdr0 f h
  rcases hcase with ⟨hne, hnh⟩ | ⟨rfl, pre, names, trail, rest, rfl, hpre, hrest⟩
  · have hH : fileHeader hdr0 f = hdr0 := by rw [fileHeader, List.isEmpty_eq_false_iff.mpr hne]; rfl
    rw [hH]
    exact ⟨foldl_body o hdr0 hne f [] hok hnh, hne⟩
  · have hH : fileHeader [] (pre ++ GLine.header names trail :: rest) = names := by
      rw [fileHeader, List.isEmpty_nil, if_pos rfl, find_header pre names trail rest hpre]
    have hmem : ∀ l ∈ GLine.header names trail :: rest, l ∈ pre ++ GLine.header names trail :: rest :=
      fun l hl => List.mem_append_right _ hl
    have hhok : hdrOk names trail = true := hok _ (hmem _ List.mem_cons_self)
    have hnne : names ≠ [] := (hdrOk_spec names trail hhok).1
    rw [hH]
    refine ⟨?_, hnne⟩
    rw [List.map_append, List.foldl_append, List.map_cons, List.foldl_cons,
      foldl_blanks o _ pre hpre (fun l hl => hok l (List.mem_append_left _ hl)),
      stepLine_header o _ names trail hhok rfl,
      foldl_body o names hnne rest [] (fun l hl => hok l (hmem l (List.mem_cons_of_mem _ hl))) hrest,
      fileRows_append, fileRows_blanks pre hpre, fileRows_cons_header]
    rfl

/-! ### the entry of a row -/

theorem dget_zip_map {β γ : Type} (g : Str → γ → β) (ks : List Str) (vs : List γ) (hn : ks.Nodup)
    (i : Nat) (hi : i < ks.length) :
    dget ((ks.zip vs).map (fun kv => (kv.1, g kv.1 kv.2))) ks[i] = (vs[i]?).map (g ks[i]) := by
  induction ks generalizing vs i with
  | nil => exact absurd hi (Nat.not_lt_zero _)
  | cons k r ih =>
    rw [List.nodup_cons] at hn
    cases vs with
    | nil => rfl
    | cons v vr =>
      cases i with
      | zero => exact if_pos rfl
      | succ j =>
        have hj : j < r.length := Nat.lt_of_succ_lt_succ hi
        rw [List.zip_cons_cons, List.map_cons, List.getElem_cons_succ, dget_cons,
          if_neg fun e : k = r[j] => hn.1 (e ▸ List.getElem_mem hj), List.getElem?_cons_succ]
        exact ih vr hn.2 j hj

theorem dkeys_zip_map {β γ : Type} (g : Str → γ → β) (ks : List Str) (vs : List γ) :
    (dkeys ((ks.zip vs).map (fun kv => (kv.1, g kv.1 kv.2)))).Sublist ks := by
  induction ks generalizing vs with
  | nil => exact List.nil_sublist _
  | cons k r ih =>
    cases vs with
    | nil => exact List.nil_sublist _
    | cons v vr => exact List.Sublist.cons_cons _ (ih vr)

theorem dget_entryOf {β : Type} (conv : Str → Str → β) (H v : List Str) (hn : H.tail.Nodup)
    (i : Nat) (hi : i < H.tail.length) :
    dget (entryOf conv H v) H.tail[i] = (v.tail[i]?).map (conv H.tail[i]) := by
  unfold entryOf mkDict
  rw [dget_dictUpdate_nodup _ _ _ ((dkeys_zip_map conv H.tail v.tail).nodup hn), dget_zip_map conv _ _ hn i hi]
  exact Option.or_none

theorem zip_take_right {β γ : Type} (l1 : List β) (l2 : List γ) : l1.zip l2 = l1.zip (l2.take l1.length) := by
  induction l1 generalizing l2 with
  | nil => rfl
  | cons a r ih =>
    cases l2 with
    | nil => rfl
    | cons b s => rw [List.length_cons, List.take_succ_cons, List.zip_cons_cons, List.zip_cons_cons, ← ih]

theorem tail_take_succ {β : Type} (a : List β) (n : Nat) : (a.take (n + 1)).tail = a.tail.take n := by
  cases a with
  | nil => exact List.take_nil.symm
  | cons _ _ => rfl

theorem entryOf_congr_take {β : Type} (conv : Str → Str → β) (H a b : List Str)
    (h : a.take H.length = b.take H.length) : entryOf conv H a = entryOf conv H b := by
  cases H with
  | nil => rfl
  | cons h0 ht =>
    rw [entryOf, entryOf, List.tail_cons, zip_take_right ht a.tail, zip_take_right ht b.tail, ← tail_take_succ,
      ← tail_take_succ, ← List.length_cons (a := h0), h]

theorem headD_take (n : Nat) (hn : 0 < n) (a : List Str) : (a.take n).headD [] = a.headD [] := by
  cases n with
  | zero => exact absurd hn (Nat.lt_irrefl 0)
  | succ m => cases a <;> rfl

theorem headD_congr_take (n : Nat) (hn : 0 < n) (a b : List Str) (h : a.take n = b.take n) :
    a.headD [] = b.headD [] := by
  rw [← headD_take n hn a, h, headD_take n hn b]

/-! ### from the stored rows to the dict -/

/-- the dict of the rows, or the refusal (no data row, a repeated ID): the end of `fromFileC`, and `relOf` -/
def rowsDict {β : Type} (conv : Str → Str → β) (H : List Str) (rows : List (List Str)) : Except Err (Mapping β) :=
  if rows.isEmpty then .error .other
  else if ¬ (rows.map (fun r => r.headD [])).Nodup then .error .other
  else .ok (rows.map (fun v => (v.headD [], entryOf conv H v)))

theorem relOf_eq {β : Type} (o : Opts) (hdr0 : List Str) (conv : Str → Str → β) (f : List GLine) :
    relOf o hdr0 conv f =
      rowsDict conv (fileHeader hdr0 f) ((fileRows f).map (rowVals o (fileHeader hdr0 f).length)) := rfl

theorem fromFileC_eq {β : Type} (o : Opts) (hdr0 : List Str) (conv : Str → Str → β) (lines : List Str)
    (H : List Str) (R : List (List Str))
    (hfold : lines.foldl (stepLine o) { header := hdr0, rows := [] } = { header := H, rows := R }) (hH : H ≠ []) :
    fromFileC o hdr0 conv lines = rowsDict conv H R := by
  unfold fromFileC
  simp only [hfold]
  exact if_neg (by rw [List.isEmpty_eq_false_iff.mpr hH]; exact Bool.false_ne_true)

theorem rowsDict_ok {β : Type} (conv : Str → Str → β) (H : List Str) (rows : List (List Str)) (m : Mapping β)
    (h : rowsDict conv H rows = .ok m) :
    m = rows.map (fun v => (v.headD [], entryOf conv H v)) ∧ (dkeys m).Nodup := by
  unfold rowsDict at h
  split at h
  · cases h
  · split at h
    · cases h
    · rename_i hnd
      cases h
      refine ⟨rfl, ?_⟩
      rw [dkeys, List.map_map]
      exact Decidable.of_not_not hnd

theorem rowsDict_congr {β ι : Type} (conv : Str → Str → β) (H : List Str) (hH : H ≠ []) (l : List ι)
    (p v : ι → List Str) (h : ∀ x ∈ l, (p x).take H.length = (v x).take H.length) :
    rowsDict conv H (l.map p) = rowsDict conv H (l.map v) := by
  have hpos : 0 < H.length := List.length_pos_iff.mpr hH
  have hid : (l.map p).map (fun r => r.headD []) = (l.map v).map (fun r => r.headD []) := by
    rw [List.map_map, List.map_map]
    exact List.map_congr_left fun x hx => headD_congr_take _ hpos _ _ (h x hx)
  have hent : (l.map p).map (fun r => (r.headD [], entryOf conv H r)) =
      (l.map v).map (fun r => (r.headD [], entryOf conv H r)) := by
    rw [List.map_map, List.map_map]
    exact List.map_congr_left fun x hx =>
      Prod.ext (headD_congr_take _ hpos _ _ (h x hx)) (entryOf_congr_take conv _ _ _ (h x hx))
  rw [rowsDict, rowsDict, hid, hent, List.isEmpty_map, List.isEmpty_map]

end Biom.C18
