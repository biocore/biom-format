/-
  C11 — helper lemmas.  The model works by position (`filterMask`, parallel lists, `transposeGrid`), the
  predicates look everything up by ID; the first sections bridge the two.  Then, operation by operation
  (partition, one-to-one collapse, one-to-many collapse), what the model computes is read field by field at the
  oriented level (partitioned axis = row axis) and the predicate `holds…O` is shown of it; `orient` carries the
  facts to either axis.
-/
import BiomModel.C11
import BiomModel.Lemmas.Layer

namespace Biom.C11

variable {α β γ δ : Type}

/-! ### masks and parallel lists, read by ID -/

theorem filterMask_eq_filter {ids : List Id} (hn : ids.Nodup) (m : List Bool) :
    filterMask ids m = ids.filter (fun id => lookupBy ids m id == some true) := by
  induction ids generalizing m with
  | nil => rfl
  | cons i is ih =>
    have hn' := List.nodup_cons.mp hn
    cases m with
    | nil => simp [filterMask_nil_right, lookupBy_nil_right]
    | cons b bs =>
      have htail : is.filter (fun id => lookupBy (i :: is) (b :: bs) id == some true) =
          is.filter (fun id => lookupBy is bs id == some true) :=
        List.filter_congr fun id hid => by rw [lookupBy_cons_ne (fun (e : i = id) => hn'.1 (e ▸ hid))]
      rw [filterMask_cons, List.filter_cons, htail, ← ih hn'.2 bs, lookupBy_cons, if_pos rfl]
      cases b <;> rfl

theorem mem_filterMask_iff {ids : List Id} (hn : ids.Nodup) (m : List Bool) (id : Id) :
    id ∈ filterMask ids m ↔ (id ∈ ids ∧ lookupBy ids m id = some true) := by
  rw [filterMask_eq_filter hn, List.mem_filter, beq_iff_eq]

theorem zip_map_eq_ids_map {ids : List Id} (hn : ids.Nodup) (xs : List β) (ys : List γ)
    (G : Option β → Option γ → δ) (hx : xs.length = ids.length) (hy : ys.length = ids.length) :
    (xs.zip ys).map (fun p => G (some p.1) (some p.2)) =
      ids.map (fun id => G (lookupBy ids xs id) (lookupBy ids ys id)) :=
  calc _ = List.zipWith G (xs.map some) (ys.map some) := by
        rw [List.zipWith_map, List.zip_eq_zipWith, List.map_zipWith]
    _ = _ := by
        rw [← map_lookupBy_self ids xs hn hx.symm, ← map_lookupBy_self ids ys hn hy.symm, List.zipWith_map,
          List.zipWith_self]

theorem filterMask_map_lookup {ids : List Id} (hn : ids.Nodup) (xs : List β) (hx : xs.length = ids.length)
    (m : List Bool) : (filterMask ids m).map (lookupBy ids xs) = (filterMask xs m).map some := by
  rw [filterMask_map, map_lookupBy_self ids xs hn hx.symm, ← filterMask_map]

theorem md_filterMask_length {md : Option (List β)} {ids : List Id} (h : ∀ l, md = some l → l.length = ids.length)
    (m : List Bool) (l : List β) (hl : md.map (fun l => filterMask l m) = some l) :
    l.length = (filterMask ids m).length := by
  obtain ⟨l0, h0, rfl⟩ := Option.map_eq_some_iff.mp hl
  exact filterMask_length_eq _ _ _ (h l0 h0)

theorem md_filterMask_lookup {ids : List Id} (hn : ids.Nodup) (md : Option (List β)) (m : List Bool) {id : Id}
    (hm : id ∈ filterMask ids m) :
    (md.map (fun l => filterMask l m)).bind (fun l => lookupBy (filterMask ids m) l id) =
      md.bind (fun l => lookupBy ids l id) := by
  cases md with
  | none => rfl
  | some l => exact lookupBy_filterMask _ l m _ hn hm

/-! ### first occurrences -/

theorem mem_firsts {κ : Type} [DecidableEq κ] (l : List κ) (x : κ) : x ∈ firsts l ↔ x ∈ l := by
  induction l with
  | nil => rfl
  | cons a as ih =>
    simp only [firsts, List.mem_cons, List.mem_filter, ih, decide_eq_true_eq]
    by_cases he : x = a
    · simp only [he, true_or]
    · simp only [he, false_or]
      exact and_iff_left he

theorem nodup_firsts {κ : Type} [DecidableEq κ] (l : List κ) : (firsts l).Nodup := by
  induction l with
  | nil => exact List.nodup_nil
  | cons a as ih =>
    simp only [firsts, List.nodup_cons, List.mem_filter, decide_eq_true_eq]
    exact ⟨fun h => h.2 rfl, ih.sublist List.filter_sublist⟩

/-! ### clause lists -/

theorem Clauses.ok_nil : Clauses.ok [] = true := rfl

theorem Clauses.ok_cons (n : String) (b : Bool) (c : Clauses) : Clauses.ok ((n, b) :: c) = (b && c.ok) := rfl

theorem Clauses.ok_append (a b : Clauses) : Clauses.ok (a ++ b) = (a.ok && b.ok) := List.all_append

theorem Clauses.ok_iff (c : Clauses) : c.ok = true ↔ ∀ p ∈ c, p.2 = true := List.all_eq_true

theorem Clauses.ok_flatMap {ι : Type} (l : List ι) (f : ι → Clauses) :
    Clauses.ok (l.flatMap f) = l.all (fun x => (f x).ok) := by
  induction l with
  | nil => rfl
  | cons a as ih => rw [List.flatMap_cons, Clauses.ok_append, ih, List.all_cons]

/-! ### tables -/

structure TableOk (t : Table α) : Prop where
  wf : t.WF
  obsNodup : t.obs.Nodup
  sampNodup : t.samp.Nodup

theorem length_of_ite_some {c : Prop} [Decidable c] {l md : List β} (h : (if c then some l else none) = some md) :
    md.length = l.length := by
  split at h
  · cases h; rfl
  · cases h

theorem wf_of_keys {κ : Type} (K : List κ) (obs : List Id) (g : κ → List α) (h : κ → Md) (c : Prop) [Decidable c]
    (samp : List Id) (smd : Option (List Md)) (ty : Option String) (ho : obs.length = K.length)
    (hg : ∀ k ∈ K, (g k).length = samp.length) (hs : ∀ m, smd = some m → m.length = samp.length) :
    Table.WF { obs := obs, rows := K.map g, omd := if c then some (K.map h) else none,
               samp := samp, smd := smd, ttype := ty } := by
  refine ⟨(List.length_map _).trans ho.symm, fun r hr => ?_,
    fun md hmd => (length_of_ite_some hmd).trans ((List.length_map _).trans ho.symm), hs⟩
  obtain ⟨k, hk, rfl⟩ := List.mem_map.mp hr
  exact hg k hk

/-! ### `sel`: the vectors under a mask -/

theorem sel_obs_eq_members {κ : Type} [DecidableEq κ] (t : Table α) (hn : t.obs.Nodup) (ks : List (Option κ)) (k : κ) :
    (sel t (maskOf ks k)).obs = members t.obs ks k := by
  show filterMask t.obs (maskOf ks k) = _
  rw [filterMask_eq_filter hn, members]
  apply List.filter_congr
  intro id _
  rw [maskOf, lookupBy_map]
  cases lookupBy t.obs ks id with
  | none => rfl
  | some o => simp only [Option.map_some, Option.some_beq_some, beq_true, Option.some.injEq]

theorem sel_rows_len (t : Table α) (h : t.WF) (m : List Bool) : ∀ r ∈ (sel t m).rows, r.length = t.samp.length :=
  fun r hr => h.2.1 r (mem_filterMask _ _ _ hr)

theorem sel_wf (t : Table α) (h : t.WF) (m : List Bool) : (sel t m).WF :=
  ⟨filterMask_length_eq _ _ _ h.1, sel_rows_len t h m, md_filterMask_length h.2.2.1 m, h.2.2.2⟩

theorem sel_ok (t : Table α) (ht : TableOk t) (m : List Bool) : TableOk (sel t m) :=
  ⟨sel_wf t ht.wf m, nodup_filterMask _ m ht.obsNodup, ht.sampNodup⟩

theorem sel_row (t : Table α) (hn : t.obs.Nodup) (m : List Bool) {id : Id} (hm : id ∈ (sel t m).obs) :
    (sel t m).row? id = t.row? id :=
  lookupBy_filterMask _ t.rows m _ hn hm

theorem sel_cell (t : Table α) (hn : t.obs.Nodup) (m : List Bool) {id : Id} (hm : id ∈ (sel t m).obs) (s : Id) :
    (sel t m).cell? id s = t.cell? id s :=
  congrArg (·.bind fun r => lookupBy t.samp r s) (sel_row t hn m hm)

theorem sel_mdOf_obs (t : Table α) (hn : t.obs.Nodup) (m : List Bool) {id : Id} (hm : id ∈ (sel t m).obs) :
    (sel t m).mdOf? .obs id = t.mdOf? .obs id :=
  md_filterMask_lookup hn t.omd m hm

theorem sel_mdOf_samp (t : Table α) (m : List Bool) (s : Id) :
    (sel t m).mdOf? .samp s = t.mdOf? .samp s := rfl

/-! ### `_cast_metadata`: all-empty metadata is no metadata -/

theorem normMd_some {m : Option (List Md)} {md : List Md} (h : normMd m = some md) : m = some md := by
  cases m with
  | none => cases h
  | some m0 =>
    simp only [normMd] at h
    split at h
    · cases h
    · exact h

theorem castMd_obs (t : Table α) : (castMd t).obs = t.obs := rfl

theorem castMd_wf (t : Table α) (h : t.WF) : (castMd t).WF :=
  ⟨h.1, h.2.1, fun md hmd => h.2.2.1 md (normMd_some hmd), fun md hmd => h.2.2.2 md (normMd_some hmd)⟩

/-- an entry that `normMd` drops was empty: read with `[]` for "absent", nothing changes -/
theorem getD_normMd (ids : List Id) (m : Option (List Md)) (id : Id) :
    ((normMd m).bind (fun l => lookupBy ids l id)).getD [] = (m.bind (fun l => lookupBy ids l id)).getD [] := by
  cases m with
  | none => rfl
  | some m0 =>
    simp only [normMd]
    split
    · rename_i hall
      exact (lookupBy_all_empty hall id).symm
    · rfl

theorem mdD_castMd (t : Table α) (ax : Axis) (id : Id) : mdD (castMd t) ax id = mdD t ax id := by
  cases ax
  · exact getD_normMd t.obs t.omd id
  · exact getD_normMd t.samp t.smd id

/-- the ID comes first so that the goal fixes `t` and `r` before `rfl` is tried for the two hypotheses -/
theorem mdD_normMd_samp {t r : Table α} (s : Id) (hs : r.samp = t.samp) (hm : r.smd = normMd t.smd) :
    mdD r .samp s = mdD t .samp s := by
  unfold mdD Table.mdOf?
  simp only [Table.md, Table.ids, hs, hm]
  exact getD_normMd t.samp t.smd s

theorem mdD_of_mdOf {p t : Table α} {ax : Axis} {id : Id} (h : p.mdOf? ax id = t.mdOf? ax id) :
    mdD p ax id = mdD t ax id :=
  congrArg (·.getD []) h

/-! ### remove_empty -/

theorem removeEmpty_samp_sub [Zero α] [DecidableEq α] (p : Table α) {s : Id} (h : s ∈ (removeEmpty p).samp) :
    s ∈ p.samp := mem_filterMask _ _ _ h

section Part
variable [Zero α] [DecidableEq α]

theorem removeEmpty_obs_sub (p : Table α) {id : Id} (h : id ∈ (removeEmpty p).obs) : id ∈ p.obs :=
  mem_filterMask _ _ _ h

theorem removeEmpty_obs (p : Table α) (hn : p.obs.Nodup) :
    (removeEmpty p).obs = p.obs.filter (rowNZ p) := by
  show filterMask p.obs (p.rows.map nzRow) = _
  rw [filterMask_eq_filter hn]
  apply List.filter_congr
  intro id _
  rw [lookupBy_map, rowNZ, Table.row?]
  cases lookupBy p.obs p.rows id with
  | none => rfl
  | some r => simp only [Option.map_some, Option.some_beq_some, beq_true]

theorem colNZ_length (n : Nat) (rows : List (List α)) (h : ∀ r ∈ rows, r.length = n) :
    (colNZ n rows).length = n := by
  induction rows with
  | nil => exact List.length_replicate
  | cons r rs ih =>
    rw [colNZ, List.length_zipWith, List.length_map, ih (fun r' hr' => h r' (List.mem_cons_of_mem _ hr')),
      h r List.mem_cons_self, Nat.min_self]

def nzAt (samp : List Id) (s : Id) (r : List α) : Bool :=
  match lookupBy samp r s with
  | some v => decide (v ≠ 0)
  | none => false

theorem lookupBy_colNZ (samp : List Id) {s : Id} (hs : s ∈ samp) (rows : List (List α))
    (h : ∀ r ∈ rows, r.length = samp.length) :
    lookupBy samp (colNZ samp.length rows) s = some (rows.any (nzAt samp s)) := by
  induction rows with
  | nil => exact lookupBy_replicate hs samp.length (Nat.le_refl _) false
  | cons r rs ih =>
    rw [colNZ, lookupBy_zipWith, ih (fun r' hr' => h r' (List.mem_cons_of_mem _ hr')), lookupBy_map]
    obtain ⟨v, hv⟩ := lookupBy_isSome _ r _ (Nat.le_of_eq (h r List.mem_cons_self).symm) hs
    simp only [hv, nzAt, Option.map_some, Option.bind_some, List.any_cons]

theorem any_rows_eq_any_ids (p : Table α) (hn : p.obs.Nodup) (hl : p.rows.length = p.obs.length) (s : Id) :
    p.rows.any (nzAt p.samp s) = p.obs.any (fun id => cellNZ p id s) := by
  have h1 : p.rows.any (nzAt p.samp s) =
      (p.rows.map some).any (fun o => match o.bind (fun r => lookupBy p.samp r s) with
        | some v => decide (v ≠ 0) | none => false) := by
    rw [List.any_map]; rfl
  rw [h1, ← map_lookupBy_self _ p.rows hn hl.symm, List.any_map]
  rfl

theorem removeEmpty_samp_contains (p : Table α) (ht : TableOk p) {s : Id} (hs : s ∈ p.samp) :
    (removeEmpty p).samp.contains s = p.obs.any (fun id => cellNZ p id s) := by
  show (filterMask p.samp (colNZ p.samp.length p.rows)).contains s = _
  have hl := lookupBy_colNZ p.samp hs p.rows ht.wf.2.1
  rw [any_rows_eq_any_ids p ht.obsNodup ht.wf.1 s] at hl
  rw [Bool.eq_iff_iff, List.contains_iff_mem, mem_filterMask_iff ht.sampNodup, hl]
  simp only [hs, true_and, Option.some.injEq]

theorem removeEmpty_wf (p : Table α) (h : p.WF) : (removeEmpty p).WF := by
  refine ⟨(List.length_map _).trans (filterMask_length_eq _ _ _ h.1), fun r hr => ?_,
    md_filterMask_length h.2.2.1 _, md_filterMask_length h.2.2.2 _⟩
  obtain ⟨r0, hr0, rfl⟩ := List.mem_map.mp hr
  exact filterMask_length_eq _ _ _ (h.2.1 r0 (mem_filterMask _ _ _ hr0))

theorem removeEmpty_cell (p : Table α) (ht : TableOk p) {id s : Id} (hid : id ∈ (removeEmpty p).obs)
    (hs : s ∈ (removeEmpty p).samp) : (removeEmpty p).cell? id s = p.cell? id s := by
  have hrow : (removeEmpty p).row? id =
      (p.row? id).map (fun r => filterMask r (colNZ p.samp.length p.rows)) := by
    show lookupBy (filterMask p.obs _) ((filterMask p.rows _).map _) id = _
    rw [filterMask_map, lookupBy_filterMask _ _ _ _ ht.obsNodup hid, lookupBy_map]
    rfl
  unfold Table.cell?
  rw [hrow]
  cases p.row? id with
  | none => rfl
  | some r => exact lookupBy_filterMask _ r _ _ ht.sampNodup hs

theorem removeEmpty_mdOf_obs (p : Table α) (ht : TableOk p) {id : Id} (hid : id ∈ (removeEmpty p).obs) :
    (removeEmpty p).mdOf? .obs id = p.mdOf? .obs id :=
  md_filterMask_lookup ht.obsNodup p.omd _ hid

theorem removeEmpty_mdOf_samp (p : Table α) (ht : TableOk p) {s : Id} (hs : s ∈ (removeEmpty p).samp) :
    (removeEmpty p).mdOf? .samp s = p.mdOf? .samp s :=
  md_filterMask_lookup ht.sampNodup p.smd _ hs

theorem rowNZ_congr {p t : Table α} {id : Id} (h : p.row? id = t.row? id) : rowNZ p id = rowNZ t id := by
  unfold rowNZ; rw [h]

theorem cellNZ_congr {p t : Table α} {o s : Id} (h : p.cell? o s = t.cell? o s) : cellNZ p o s = cellNZ t o s := by
  unfold cellNZ; rw [h]

theorem removeEmpty_sel_obs (t : Table α) (ht : TableOk t) {κ : Type} [DecidableEq κ] (ks : List (Option κ)) (k : κ) :
    (removeEmpty (sel t (maskOf ks k))).obs = (members t.obs ks k).filter (rowNZ t) := by
  have hobs := sel_obs_eq_members t ht.obsNodup ks k
  rw [removeEmpty_obs _ (sel_ok t ht _).obsNodup, hobs]
  exact List.filter_congr fun id hid => rowNZ_congr (sel_row t ht.obsNodup _ (hobs ▸ hid))

theorem subl_eq_isSublist (a b : List Id) : subl a b = a.isSublist b := by
  fun_induction subl a b <;> simp_all [List.isSublist]

theorem subl_filterMask (xs : List Id) (m : List Bool) : subl (filterMask xs m) xs = true := by
  rw [subl_eq_isSublist, List.isSublist_iff_sublist]
  exact filterMask_sublist xs m

/-! ### the clauses for one part -/

theorem partClauses_ok_iff (t : Table α) (ks : List (Option Label)) (re : Bool) (k : Label) (p : Table α) :
    (partClauses t ks re k p).ok = true ↔
      p.WF ∧ p.obs = (if re then (members t.obs ks k).filter (rowNZ t) else members t.obs ks k) ∧
      (if re then subl p.samp t.samp &&
          t.samp.all (fun s => p.samp.contains s == (members t.obs ks k).any (fun id => cellNZ t id s))
        else decide (p.samp = t.samp)) = true ∧
      (∀ id ∈ p.obs, ∀ s ∈ p.samp, p.cell? id s = t.cell? id s) ∧
      ((∀ id ∈ p.obs, mdD p .obs id = mdD t .obs id) ∧ ∀ s ∈ p.samp, mdD p .samp s = mdD t .samp s) ∧
      p.ttype = t.ttype := by
  simp only [partClauses, Clauses.ok_cons, Clauses.ok_nil, Bool.and_true, Bool.and_eq_true, decide_eq_true_eq,
    List.all_eq_true, Layer.table_wfb_iff]

theorem partClauses_castMd (t : Table α) (ks : List (Option Label)) (re : Bool) (k : Label) (p : Table α)
    (h : (partClauses t ks re k p).ok = true) : (partClauses t ks re k (castMd p)).ok = true := by
  rw [partClauses_ok_iff] at h ⊢
  obtain ⟨hwf, hobs, hoth, hcell, ⟨hmo, hms⟩, hty⟩ := h
  exact ⟨castMd_wf p hwf, hobs, hoth, hcell,
    ⟨fun id hid => (mdD_castMd p .obs id).trans (hmo id hid), fun s hs => (mdD_castMd p .samp s).trans (hms s hs)⟩,
    hty⟩

theorem partClauses_sel (t : Table α) (ht : TableOk t) (ks : List (Option Label)) (k : Label) :
    (partClauses t ks false k (sel t (maskOf ks k))).ok = true := by
  rw [partClauses_ok_iff]
  exact ⟨sel_wf t ht.wf _, sel_obs_eq_members t ht.obsNodup ks k, decide_eq_true rfl,
    fun id hid s _ => sel_cell t ht.obsNodup _ hid s,
    ⟨fun id hid => mdD_of_mdOf (sel_mdOf_obs t ht.obsNodup _ hid), fun _ _ => rfl⟩, rfl⟩

theorem partClauses_removeEmpty (t : Table α) (ht : TableOk t) (ks : List (Option Label)) (k : Label) :
    (partClauses t ks true k (removeEmpty (sel t (maskOf ks k)))).ok = true := by
  have hp := sel_ok t ht (maskOf ks k)
  have hobs := sel_obs_eq_members t ht.obsNodup ks k
  rw [partClauses_ok_iff]
  refine ⟨removeEmpty_wf _ hp.wf, removeEmpty_sel_obs t ht ks k, ?_,
    fun id hid s hs => (removeEmpty_cell _ hp hid hs).trans (sel_cell t ht.obsNodup _ (removeEmpty_obs_sub _ hid) s),
    ⟨fun id hid => mdD_of_mdOf ((removeEmpty_mdOf_obs _ hp hid).trans (sel_mdOf_obs t ht.obsNodup _ (removeEmpty_obs_sub _ hid))),
      fun s hs => mdD_of_mdOf (removeEmpty_mdOf_samp _ hp hs)⟩, rfl⟩
  -- the other axis: a sub-list of the whole one, holding exactly the IDs under which the group has a non-zero
  simp only [if_true, Bool.and_eq_true, List.all_eq_true, beq_iff_eq]
  refine ⟨subl_filterMask _ _, fun s hs => ?_⟩
  rw [removeEmpty_samp_contains _ hp hs, hobs]
  exact any_congr_mem fun id hid => cellNZ_congr (sel_cell t ht.obsNodup _ (hobs ▸ hid) s)

/-! ### the parts the model yields -/

def partOf (t : Table α) (ks : List (Option Label)) (re : Bool) (k : Label) : Table α :=
  castMd (if re then removeEmpty (sel t (maskOf ks k)) else sel t (maskOf ks k))

theorem partOf_false (t : Table α) (ks : List (Option Label)) (k : Label) :
    partOf t ks false k = castMd (sel t (maskOf ks k)) := rfl

theorem partitionO_eq (t : Table α) (ls : List Label) (re ign : Bool) :
    partitionO t ls re ign =
      (firsts ((ls.map (eff ign)).filterMap id)).map (fun k => (k, partOf t (ls.map (eff ign)) re k)) := by
  unfold partitionO partO
  cases re
  · exact List.map_map
  · exact List.map_map

theorem partitionO_labels (t : Table α) (ls : List Label) (re ign : Bool) :
    (partitionO t ls re ign).map (·.1) = firsts ((ls.map (eff ign)).filterMap id) := by
  rw [partitionO_eq, List.map_map]
  exact List.map_id _

theorem partOf_wf (t : Table α) (h : t.WF) (ks : List (Option Label)) (re : Bool) (k : Label) :
    (partOf t ks re k).WF := by
  cases re
  · exact castMd_wf _ (sel_wf t h _)
  · exact castMd_wf _ (removeEmpty_wf _ (sel_wf t h _))

theorem partitionO_wf (t : Table α) (h : t.WF) (ls : List Label) (re ign : Bool) :
    ∀ p ∈ partitionO t ls re ign, p.2.WF := by
  rw [partitionO_eq, List.forall_mem_map]
  exact fun k _ => partOf_wf t h _ re k

theorem partOf_clauses (t : Table α) (ht : TableOk t) (ks : List (Option Label)) (re : Bool) (k : Label) :
    (partClauses t ks re k (partOf t ks re k)).ok = true := by
  cases re
  · exact partClauses_castMd _ _ _ _ _ (partClauses_sel t ht ks k)
  · exact partClauses_castMd _ _ _ _ _ (partClauses_removeEmpty t ht ks k)

end Part

/-- the partition predicate holds of what the model yields (oriented level) -/
theorem holdsPartitionO_model [Zero α] [DecidableEq α] (t : Table α) (ht : TableOk t) (ls : List Label)
    (re ign : Bool) : (holdsPartitionO t ls re ign (partitionO t ls re ign)).ok = true := by
  unfold holdsPartitionO
  rw [Clauses.ok_append, Clauses.ok_flatMap, partitionO_labels, partitionO_eq, Bool.and_eq_true]
  generalize ls.map (eff ign) = ks
  constructor
  · -- the labels of the parts are the distinct effective labels
    simp only [Clauses.ok_cons, Clauses.ok_nil, Bool.and_true, Bool.and_eq_true, decide_eq_true_eq, List.all_eq_true,
      List.contains_iff_mem, List.forall_mem_map, mem_firsts, List.mem_filterMap, id]
    refine ⟨nodup_firsts _, fun k ⟨o, ho, he⟩ => he ▸ ho, fun o ho => ?_⟩
    cases o with
    | none => trivial
    | some k => exact List.contains_iff_mem.mpr ((mem_firsts _ _).mpr (List.mem_filterMap.mpr ⟨some k, ho, rfl⟩))
  · rw [List.all_eq_true, List.forall_mem_map]
    exact fun k _ => partOf_clauses t ht ks re k

/-! ### orientation: `axis='sample'` works on the transposed table and transposes back -/

theorem transpose_transpose (t : Table α) (h : t.WF) : t.transpose.transpose = t :=
  Layer.table_transpose_transpose t h

theorem orient_ok (ax : Axis) (t : Table α) (h : TableOk t) : TableOk (orient ax t) := by
  cases ax
  · exact h
  · exact ⟨transpose_wf t h.wf, h.sampNodup, h.obsNodup⟩

theorem orient_wf (ax : Axis) (t : Table α) (h : t.WF) : (orient ax t).WF := by
  cases ax
  · exact h
  · exact transpose_wf t h

theorem orient_orient (ax : Axis) (t : Table α) (h : t.WF) : orient ax (orient ax t) = t := by
  cases ax
  · rfl
  · exact transpose_transpose t h

theorem map_orient_orient {κ : Type} (ax : Axis) (ps : List (κ × Table α)) (h : ∀ p ∈ ps, p.2.WF) :
    (ps.map (fun p => (p.1, orient ax p.2))).map (fun p => (p.1, orient ax p.2)) = ps := by
  induction ps with
  | nil => rfl
  | cons p ps ih =>
    rw [List.map_cons, List.map_cons, orient_orient ax p.2 (h p List.mem_cons_self),
      ih (fun q hq => h q (List.mem_cons_of_mem _ hq))]

theorem orient_obs (ax : Axis) (t : Table α) : (orient ax t).obs = t.ids ax := by
  cases ax <;> rfl

theorem orient_samp (ax : Axis) (t : Table α) : (orient ax t).samp = t.ids ax.other := by
  cases ax <;> rfl

theorem orient_obs_length (ax : Axis) (t : Table α) : (orient ax t).obs.length = (t.ids ax).length :=
  congrArg List.length (orient_obs ax t)

theorem mem_orient_obs {ax : Axis} {t : Table α} {id : Id} (h : id ∈ t.ids ax) : id ∈ (orient ax t).obs :=
  (orient_obs ax t).symm ▸ h

theorem mem_orient_samp {ax : Axis} {t : Table α} {s : Id} (h : s ∈ t.ids ax.other) : s ∈ (orient ax t).samp :=
  (orient_samp ax t).symm ▸ h

theorem orient_omd (ax : Axis) (t : Table α) : (orient ax t).omd = t.md ax := by
  cases ax <;> rfl

theorem orient_smd (ax : Axis) (t : Table α) : (orient ax t).smd = t.md ax.other := by
  cases ax <;> rfl

theorem orient_ids (ax : Axis) (q : Table α) : (orient ax q).ids ax = q.obs := by
  cases ax <;> rfl

theorem orient_ids_other (ax : Axis) (q : Table α) : (orient ax q).ids ax.other = q.samp := by
  cases ax <;> rfl

theorem orient_md_other (ax : Axis) (q : Table α) : (orient ax q).md ax.other = q.smd := by
  cases ax <;> rfl

theorem orient_ttype (ax : Axis) (q : Table α) : (orient ax q).ttype = q.ttype := by
  cases ax <;> rfl

theorem orient_mdOf (ax : Axis) (q : Table α) (id : Id) : (orient ax q).mdOf? ax id = q.mdOf? .obs id := by
  cases ax <;> rfl

theorem mdOf_orient (ax : Axis) (t : Table α) (id : Id) : (orient ax t).mdOf? .obs id = t.mdOf? ax id := by
  cases ax <;> rfl

theorem mdD_orient (ax : Axis) (q : Table α) (id : Id) : mdD (orient ax q) ax id = mdD q .obs id :=
  congrArg (·.getD []) (orient_mdOf ax q id)

theorem mdD_of_orient (ax : Axis) (t : Table α) (id : Id) : mdD (orient ax t) .obs id = mdD t ax id :=
  congrArg (·.getD []) (mdOf_orient ax t id)

/-- the (s, o) cell of the transposed table is the (o, s) cell of the table -/
theorem transpose_cell (q : Table α) (hq : q.WF) {o s : Id} (hs : s ∈ q.samp) :
    q.transpose.cell? s o = q.cell? o s := by
  have hidx : q.samp.idxOf s < q.samp.length := List.idxOf_lt_length_of_mem hs
  show (lookupBy q.samp (transposeGrid q.samp.length q.rows) s).bind (fun r => lookupBy q.obs r o) =
    (lookupBy q.obs q.rows o).bind (fun r => lookupBy q.samp r s)
  rw [lookupBy_eq_getElem? q.samp _ s hs, transposeGrid_getElem?, if_pos hidx, Option.bind_some,
    lookupBy_colAt q.obs q.rows _ o (fun r hr => (hq.2.1 r hr).symm ▸ hidx)]
  exact congrArg _ (funext fun r => (lookupBy_eq_getElem? q.samp r s hs).symm)

def cellAx (ax : Axis) (t : Table α) (id oid : Id) : Option α :=
  match ax with
  | .obs => t.cell? id oid
  | .samp => t.cell? oid id

theorem cellAx_orient (ax : Axis) (q : Table α) (hq : q.WF) {id oid : Id} (hid : id ∈ q.obs) :
    cellAx ax (orient ax q) id oid = q.cell? id oid := by
  cases ax with
  | obs => rfl
  | samp =>
    have := transpose_cell q.transpose (transpose_wf q hq) (o := oid) (s := id) hid
    rw [transpose_transpose q hq] at this
    exact this.symm

theorem cellAx_of_orient (ax : Axis) (t : Table α) (ht : t.WF) {id oid : Id} (hid : id ∈ t.ids ax) :
    cellAx ax t id oid = (orient ax t).cell? id oid := by
  have h := cellAx_orient ax (orient ax t) (orient_wf ax t ht) (id := id) (oid := oid) (mem_orient_obs hid)
  rwa [orient_orient ax t ht] at h

/-! ### sums over the rationals -/

theorem sumL_nil : sumL ([] : List Rat) = 0 := rfl

theorem sumL_map_mul_right {ι : Type} (l : List ι) (g : ι → Rat) (c : Rat) :
    sumL (l.map (fun x => g x * c)) = sumL (l.map g) * c := by
  induction l with
  | nil => exact (Rat.zero_mul c).symm
  | cons a as ih => rw [List.map_cons, List.map_cons, sumL_cons, sumL_cons, ih, Rat.add_mul]

theorem sumL_map_one {ι : Type} (l : List ι) : sumL (l.map (fun _ => (1 : Rat))) = (l.length : Rat) := by
  induction l with
  | nil => rfl
  | cons a as ih => rw [List.map_cons, sumL_cons, ih, List.length_cons, Rat.natCast_add, Rat.add_comm]; rfl

theorem sumL_indicator {κ : Type} [DecidableEq κ] (keys : List κ) (hn : keys.Nodup) {k0 : κ} (hk : k0 ∈ keys)
    (v : Rat) : sumL (keys.map (fun k => if k0 = k then v else 0)) = v := by
  induction keys with
  | nil => cases hk
  | cons a as ih =>
    have hn' := List.nodup_cons.mp hn
    rw [List.map_cons, sumL_cons]
    by_cases he : k0 = a
    · have hz : as.map (fun k => if k0 = k then v else 0) = as.map (fun _ => (0 : Rat)) :=
        List.map_congr_left fun k hk' => if_neg fun (e : k0 = k) => hn'.1 (he ▸ e ▸ hk')
      rw [hz, sumL_map_zero, if_pos he, Rat.add_zero]
    · rw [if_neg he, Rat.zero_add]
      exact ih hn'.2 ((List.mem_cons.mp hk).resolve_left he)

/-- every element falls in exactly one group ⇒ summing group by group is summing everything -/
theorem sum_groups {κ ι : Type} [DecidableEq κ] (keys : List κ) (hn : keys.Nodup) (P : κ → ι → Bool)
    (l : List ι) (hl : ∀ x ∈ l, ∃ k0 ∈ keys, ∀ k, P k x = decide (k0 = k)) (f : ι → Rat) :
    sumL (keys.map (fun k => sumL ((l.filter (P k)).map f))) = sumL (l.map f) := by
  induction l with
  | nil => exact sumL_map_zero keys
  | cons a as ih =>
    obtain ⟨k0, hk0, hP⟩ := hl a List.mem_cons_self
    have hterm : ∀ k, sumL (((a :: as).filter (P k)).map f) =
        (if k0 = k then f a else 0) + sumL ((as.filter (P k)).map f) := by
      intro k
      rw [List.filter_cons, hP k]
      by_cases he : k0 = k
      · rw [if_pos he, if_pos (decide_eq_true he)]; rfl
      · rw [if_neg he, if_neg (by rw [decide_eq_false he]; exact Bool.false_ne_true), Rat.zero_add]
    rw [List.map_congr_left (fun k _ => hterm k), sumL_map_add, sumL_indicator keys hn hk0,
      ih (fun id hid => hl id (List.mem_cons_of_mem _ hid)), List.map_cons, sumL_cons]

theorem sumL_filter_zero {ι : Type} (l : List ι) (P : ι → Bool) (g : ι → Rat)
    (h : ∀ x ∈ l, P x = false → g x = 0) : sumL ((l.filter P).map g) = sumL (l.map g) := by
  induction l with
  | nil => rfl
  | cons a as ih =>
    have ih' := ih (fun x hx => h x (List.mem_cons_of_mem _ hx))
    rw [List.filter_cons, List.map_cons, sumL_cons, ← ih']
    cases hp : P a with
    | true => rfl
    | false => rw [h a List.mem_cons_self hp, Rat.zero_add]; rfl

theorem sumL_comm {ι κ : Type} (as : List ι) (bs : List κ) (f : ι → κ → Rat) :
    sumL (as.map (fun a => sumL (bs.map (fun b => f a b)))) =
      sumL (bs.map (fun b => sumL (as.map (fun a => f a b)))) := by
  induction as with
  | nil => exact (sumL_map_zero bs).symm
  | cons a as ih => rw [List.map_cons, sumL_cons, ih, ← sumL_map_add]; rfl

theorem sumL_indicator_mul {ι : Type} (l : List ι) (P : ι → Bool) (c : ι → Rat) :
    sumL (l.map (fun x => (if P x then (0 : Rat) else 1) * c x)) = sumL ((l.filter (fun x => !P x)).map c) := by
  induction l with
  | nil => rfl
  | cons a as ih =>
    rw [List.map_cons, sumL_cons, ih, List.filter_cons]
    cases P a with
    | true => rw [if_pos rfl, Rat.zero_mul, Rat.zero_add]; rfl
    | false => rw [if_neg Bool.false_ne_true, Rat.one_mul]; rfl

theorem sumOver_congr {l : List Id} {g h : Id → Rat} (e : ∀ id ∈ l, g id = h id) : sumOver l g = sumOver l h :=
  congrArg sumL (List.map_congr_left e)

/-! ### `sumRows`: the element-wise sum of vectors, read by ID -/

theorem sumRows_length (n : Nat) (rs : List (List Rat)) (h : ∀ r ∈ rs, r.length = n) :
    (sumRows n rs).length = n := by
  induction rs with
  | nil => exact List.length_replicate
  | cons r rs ih =>
    have ih' := ih (fun r' hr' => h r' (List.mem_cons_of_mem _ hr'))
    unfold sumRows at ih' ⊢
    rw [List.foldr_cons, addV, List.length_zipWith, ih', h r List.mem_cons_self, Nat.min_self]

theorem lookupBy_sumRows (samp : List Id) {s : Id} (hs : s ∈ samp) (rs : List (List Rat))
    (h : ∀ r ∈ rs, r.length = samp.length) :
    lookupBy samp (sumRows samp.length rs) s = some (sumL (rs.map (fun r => (lookupBy samp r s).getD 0))) := by
  induction rs with
  | nil => exact lookupBy_replicate hs samp.length (Nat.le_refl _) 0
  | cons r rs ih =>
    have ih' := ih (fun r' hr' => h r' (List.mem_cons_of_mem _ hr'))
    obtain ⟨v, hv⟩ := lookupBy_isSome _ r _ (Nat.le_of_eq (h r List.mem_cons_self).symm) hs
    unfold sumRows at ih' ⊢
    rw [List.foldr_cons, addV, lookupBy_zipWith, ih', hv, List.map_cons, sumL_cons, hv]
    rfl

theorem sum_sel_rows (t : Table Rat) (ht : TableOk t) (m : List Bool) (s : Id) :
    sumL ((filterMask t.rows m).map (fun r => (lookupBy t.samp r s).getD 0)) =
      sumOver (filterMask t.obs m) (fun id => cellD t id s) := by
  have h2 : (filterMask t.rows m).map (fun r => (lookupBy t.samp r s).getD 0) =
      ((filterMask t.rows m).map some).map (fun o => (o.bind (fun r => lookupBy t.samp r s)).getD 0) := by
    rw [List.map_map]; rfl
  rw [h2, ← filterMask_map_lookup ht.obsNodup t.rows ht.wf.1 m, List.map_map]
  rfl

/-! ### one-to-one collapse -/

/-- the effective labels of a collapse (`ks` in `holdsCollapseO`): no ID is skipped, lists are tupled -/
def ksOf (ls : List Label) : List (Option Label) := ls.map (fun l => some l.key)

theorem ksOf_filterMap (ls : List Label) : (ksOf ls).filterMap id = ls.map Label.key := by
  rw [ksOf, List.filterMap_map]
  exact congrFun List.filterMap_eq_map' ls

def keptKeys (t : Table Rat) (ls : List Label) (minSize : Nat) : List Label :=
  (firsts (ls.map Label.key)).filter (fun k => decide (minSize ≤ (members t.obs (ksOf ls) k).length))

def groupOf (t : Table Rat) (ls : List Label) (k : Label) : Table Rat := sel t (maskOf (ksOf ls) k)

theorem groupOf_obs (t : Table Rat) (hn : t.obs.Nodup) (ls : List Label) (k : Label) :
    (groupOf t ls k).obs = members t.obs (ksOf ls) k :=
  sel_obs_eq_members t hn (ksOf ls) k

theorem groupOf_sum (t : Table Rat) (ht : TableOk t) (ls : List Label) (k : Label) {s : Id} (hs : s ∈ t.samp) :
    lookupBy t.samp (sumRows t.samp.length (groupOf t ls k).rows) s =
      some (sumOver (members t.obs (ksOf ls) k) (fun id => cellD t id s)) := by
  rw [lookupBy_sumRows t.samp hs (groupOf t ls k).rows (sel_rows_len t ht.wf _), ← groupOf_obs t ht.obsNodup]
  exact congrArg some (sum_sel_rows t ht _ s)

theorem collapseO_kept (t : Table Rat) (hn : t.obs.Nodup) (ls : List Label) (minSize : Nat) :
    (partO t (ksOf ls)).filter (fun p => decide (minSize ≤ p.2.obs.length)) =
      (keptKeys t ls minSize).map (fun k => (k, groupOf t ls k)) := by
  unfold partO keptKeys
  rw [ksOf_filterMap, List.filter_map]
  exact congrArg _ (List.filter_congr fun k _ => by rw [← groupOf_obs t hn]; rfl)

theorem collapseO_obs (t : Table Rat) (hn : t.obs.Nodup) (ls : List Label) (norm : Bool) (minSize : Nat)
    (icm : Bool) : (collapseO t ls norm minSize icm).obs = (keptKeys t ls minSize).map Label.toId :=
  (congrArg (List.map _) (collapseO_kept t hn ls minSize)).trans List.map_map

theorem collapseO_rows (t : Table Rat) (hn : t.obs.Nodup) (ls : List Label) (norm : Bool) (minSize : Nat)
    (icm : Bool) :
    (collapseO t ls norm minSize icm).rows =
      (keptKeys t ls minSize).map (fun k => reduceRow norm t.samp.length (groupOf t ls k)) :=
  (congrArg (List.map _) (collapseO_kept t hn ls minSize)).trans List.map_map

theorem collapseO_omd (t : Table Rat) (hn : t.obs.Nodup) (ls : List Label) (norm : Bool) (minSize : Nat)
    (icm : Bool) :
    (collapseO t ls norm minSize icm).omd =
      if icm && !(keptKeys t ls minSize).isEmpty then
        some ((keptKeys t ls minSize).map (fun k => cidsMd (members t.obs (ksOf ls) k))) else none := by
  show (if icm && !(List.filter _ (partO t (ksOf ls))).isEmpty then
    some (List.map _ (List.filter _ (partO t (ksOf ls)))) else none) = _
  rw [collapseO_kept t hn, List.isEmpty_map]
  simp only [List.map_map, Function.comp_def, groupOf_obs t hn]

/-- distinct labels become distinct IDs (true when all labels are strings) -/
def InjLabels (ls : List Label) : Prop :=
  ∀ a ∈ ls, ∀ b ∈ ls, a.key.toId = b.key.toId → a.key = b.key

theorem keptKeys_sub (t : Table Rat) (ls : List Label) (m : Nat) {k : Label} (h : k ∈ keptKeys t ls m) :
    k ∈ ls.map Label.key :=
  (mem_firsts _ _).mp (List.mem_filter.mp h).1

theorem keptKeys_ids_nodup (t : Table Rat) (ls : List Label) (m : Nat) (hinj : InjLabels ls) :
    ((keptKeys t ls m).map Label.toId).Nodup := by
  apply nodup_map_of_injOn _ _ ((nodup_firsts _).sublist List.filter_sublist)
  intro a ha b hb he
  obtain ⟨a0, ha0, rfl⟩ := List.mem_map.mp (keptKeys_sub t ls m ha)
  obtain ⟨b0, hb0, rfl⟩ := List.mem_map.mp (keptKeys_sub t ls m hb)
  exact hinj a0 ha0 b0 hb0 he

/-- `collapse_vector` at the oriented level -/
theorem collapseO_cell (t : Table Rat) (ht : TableOk t) (ls : List Label) (hinj : InjLabels ls)
    (norm : Bool) (minSize : Nat) (icm : Bool) {k : Label} (hk : k ∈ keptKeys t ls minSize) {s : Id}
    (hs : s ∈ t.samp) :
    (collapseO t ls norm minSize icm).cell? k.toId s =
      some (if norm then sumOver (members t.obs (ksOf ls) k) (fun id => cellD t id s) /
                ((members t.obs (ksOf ls) k).length : Rat)
            else sumOver (members t.obs (ksOf ls) k) (fun id => cellD t id s)) := by
  unfold Table.cell? Table.row?
  rw [collapseO_obs t ht.obsNodup, collapseO_rows t ht.obsNodup,
    lookupBy_map_map Label.toId _ _ (keptKeys_ids_nodup t ls minSize hinj) hk, Option.bind_some]
  show lookupBy t.samp (reduceRow norm t.samp.length (groupOf t ls k)) s = _
  unfold reduceRow
  cases norm with
  | false => exact groupOf_sum t ht ls k hs
  | true =>
    rw [if_pos rfl, lookupBy_map, groupOf_sum t ht ls k hs, groupOf_obs t ht.obsNodup]
    rfl

/-- the hypothesis `hl` of `sum_groups` for the groups of a collapse -/
theorem label_of_id (ids : List Id) (ls : List Label) (hl : ids.length ≤ ls.length) {id : Id} (hid : id ∈ ids) :
    ∃ k0 ∈ firsts (ls.map Label.key), ∀ k, decide (lookupBy ids (ksOf ls) id = some (some k)) = decide (k0 = k) := by
  obtain ⟨o, ho⟩ := lookupBy_isSome _ (ksOf ls) _ (by rw [ksOf, List.length_map]; exact hl) hid
  obtain ⟨l, hl', rfl⟩ := List.mem_map.mp (lookupBy_mem _ _ _ _ ho)
  refine ⟨l.key, (mem_firsts _ _).mpr (List.mem_map_of_mem hl'), fun k => ?_⟩
  simp only [ho, Option.some.injEq]

/-- `collapse_conserves` at the oriented level -/
theorem collapseO_conserve (t : Table Rat) (ht : TableOk t) (ls : List Label) (hinj : InjLabels ls)
    (hl : t.obs.length ≤ ls.length) (minSize : Nat) (hmin : minSize ≤ 1) (icm : Bool) {s : Id} (hs : s ∈ t.samp) :
    sumOver (collapseO t ls false minSize icm).obs (fun id => cellD (collapseO t ls false minSize icm) id s) =
      sumOver t.obs (fun id => cellD t id s) := by
  have hcell : ∀ k ∈ keptKeys t ls minSize,
      ((fun id => cellD (collapseO t ls false minSize icm) id s) ∘ Label.toId) k =
        sumOver (members t.obs (ksOf ls) k) (fun id => cellD t id s) :=
    fun k hk => congrArg (·.getD 0) (collapseO_cell t ht ls hinj false minSize icm hk hs)
  rw [collapseO_obs t ht.obsNodup, sumOver, List.map_map, List.map_congr_left hcell]
  -- a group below the threshold ≤ 1 is empty and adds nothing; the other groups split the axis
  unfold keptKeys
  rw [sumL_filter_zero]
  · exact sum_groups _ (nodup_firsts _) (fun k id => decide (lookupBy t.obs (ksOf ls) id = some (some k)))
      t.obs (fun id hid => label_of_id t.obs ls hl hid) _
  · intro k _ hP
    have : members t.obs (ksOf ls) k = [] :=
      List.length_eq_zero_iff.mp
        (Nat.lt_one_iff.mp (Nat.lt_of_lt_of_le (Nat.lt_of_not_le (of_decide_eq_false hP)) hmin))
    rw [this]
    rfl

theorem reduceRow_length (norm : Bool) (n : Nat) (p : Table Rat) (h : ∀ r ∈ p.rows, r.length = n) :
    (reduceRow norm n p).length = n := by
  have := sumRows_length n _ h
  unfold reduceRow
  cases norm
  · exact this
  · exact (List.length_map _).trans this

theorem collapseO_wf (t : Table Rat) (ht : TableOk t) (ls : List Label) (norm : Bool) (minSize : Nat)
    (icm : Bool) : (collapseO t ls norm minSize icm).WF := by
  refine wf_of_keys _ _ _ _ _ _ _ _ (List.length_map _) (fun p hp => ?_) (fun m hm => ht.wf.2.2.2 m (normMd_some hm))
  obtain ⟨k, _, rfl⟩ := List.mem_map.mp (List.mem_filter.mp hp).1
  exact reduceRow_length norm _ _ (sel_rows_len t ht.wf _)

theorem collapseO_mdOf (t : Table Rat) (ht : TableOk t) (ls : List Label) (hinj : InjLabels ls)
    (norm : Bool) (minSize : Nat) {k : Label} (hk : k ∈ keptKeys t ls minSize) :
    (collapseO t ls norm minSize true).mdOf? .obs k.toId = some (cidsMd (members t.obs (ksOf ls) k)) := by
  have hne : (keptKeys t ls minSize).isEmpty = false := List.isEmpty_eq_false_iff_exists_mem.mpr ⟨k, hk⟩
  unfold Table.mdOf?
  show ((collapseO t ls norm minSize true).omd).bind (fun m => lookupBy (collapseO t ls norm minSize true).obs m _) = _
  rw [collapseO_omd t ht.obsNodup, collapseO_obs t ht.obsNodup, hne]
  exact lookupBy_map_map Label.toId _ _ (keptKeys_ids_nodup t ls minSize hinj) hk

/-- the collapse predicate holds of what the model computes (oriented level) -/
theorem holdsCollapseO_model (t : Table Rat) (ht : TableOk t) (ls : List Label) (hinj : InjLabels ls)
    (hl : t.obs.length ≤ ls.length) (norm : Bool) (minSize : Nat) (icm : Bool) :
    (holdsCollapseO t ls norm minSize icm (collapseO t ls norm minSize icm)).ok = true := by
  have hobs := collapseO_obs t ht.obsNodup ls norm minSize icm
  simp only [holdsCollapseO, Clauses.ok_cons, Clauses.ok_nil, Bool.and_true, Bool.and_eq_true, decide_eq_true_eq,
    List.all_eq_true, List.contains_iff_mem, Layer.table_wfb_iff]
  -- `keys` of the predicate is `keptKeys`, its `ks` is `ksOf ls`
  refine ⟨collapseO_wf t ht ls norm minSize icm, hobs ▸ keptKeys_ids_nodup t ls minSize hinj,
    ⟨fun k hk => hobs ▸ List.mem_map_of_mem hk, fun id hid => hobs ▸ hid⟩,
    fun k hk s hs => collapseO_cell t ht ls hinj norm minSize icm hk hs, ?_,
    ⟨⟨rfl, fun s _ => mdD_normMd_samp s rfl rfl⟩, rfl⟩, ?_⟩
  · cases icm with
    | true =>
      rw [if_pos rfl, List.all_eq_true]
      exact fun k hk => decide_eq_true (collapseO_mdOf t ht ls hinj norm minSize hk)
    | false => exact decide_eq_true (collapseO_omd t ht.obsNodup ls norm minSize false)
  · cases norm with
    | true => rfl
    | false =>
      split
      · rename_i hc
        rw [List.all_eq_true]
        exact fun s hs => decide_eq_true (collapseO_conserve t ht ls hinj hl minSize hc.2 icm hs)
      · rfl

/-! ### one-to-many collapse -/

theorem perm_insertS (x : String) (l : List String) : (insertS x l).Perm (x :: l) := by
  induction l with
  | nil => exact .refl _
  | cons y ys ih =>
    unfold insertS
    split
    · exact (ih.cons y).trans (.swap x y ys)
    · exact .refl _

/-- `sortS` rearranges, nothing else (its order is not part of the predicate) -/
theorem perm_sortS (l : List String) : (sortS l).Perm l := by
  induction l with
  | nil => exact .refl _
  | cons a as ih => exact (perm_insertS a (sortS as)).trans (ih.cons a)

theorem mult_eq_sum (b : String) (it : List (String × String)) :
    (mult b it : Rat) = sumL ((it.filter (fun p => decide (p.2 = b))).map (fun _ => (1 : Rat))) :=
  (sumL_map_one _).symm

theorem mult_sum (bins : List String) (hn : bins.Nodup) (it : List (String × String))
    (h : ∀ p ∈ it, p.2 ∈ bins) : sumL (bins.map (fun b => (mult b it : Rat))) = (it.length : Rat) := by
  rw [List.map_congr_left (fun b _ => mult_eq_sum b it), ← sumL_map_one it]
  exact sum_groups bins hn (fun b (p : String × String) => decide (p.2 = b)) it
    (fun p hp => ⟨p.2, h p hp, fun _ => rfl⟩) (fun _ => 1)

theorem weight_sum (bins : List String) (hn : bins.Nodup) (it : List (String × String))
    (h : ∀ p ∈ it, p.2 ∈ bins) :
    sumL (bins.map (fun b => weight true b it)) = if it.isEmpty then 0 else 1 := by
  have hw : ∀ b, weight true b it = (mult b it : Rat) * ((it.length : Rat))⁻¹ := fun b => rfl
  rw [List.map_congr_left (fun b _ => hw b), sumL_map_mul_right, mult_sum bins hn it h]
  cases it with
  | nil => exact Rat.zero_mul _
  | cons p it => exact Rat.mul_inv_cancel _ (mt Rat.natCast_eq_zero_iff.mp (Nat.succ_ne_zero _))

def allItems (t : Table Rat) (evss : List Events) : List (String × String) :=
  (t.obs.map (itemsOf t evss)).flatten

def otmBins (t : Table Rat) (evss : List Events) : List String :=
  sortS (firsts ((allItems t evss).map (·.2)))

def otmRow (t : Table Rat) (evss : List Events) (divide : Bool) (b : String) : List Rat :=
  sumRows t.samp.length
    ((t.rows.zip (evss.map items)).map (fun ri => ri.1.map (fun v => weight divide b ri.2 * v)))

/-- the table the model returns in the non-error case -/
def otmTable (t : Table Rat) (evss : List Events) (divide icm : Bool) (key : String) : Table Rat :=
  { obs := otmBins t evss,
    rows := (otmBins t evss).map (otmRow t evss divide),
    omd := if icm && !(otmBins t evss).isEmpty then
             some ((otmBins t evss).map (fun b => [(key, lastPath (allItems t evss) b)])) else none,
    samp := t.samp, smd := normMd t.smd, ttype := t.ttype }

theorem items_by_id (t : Table Rat) (hn : t.obs.Nodup) (evss : List Events) (hl : evss.length = t.obs.length) :
    t.obs.map (itemsOf t evss) = evss.map items := by
  have : t.obs.map (itemsOf t evss) = (t.obs.map (lookupBy t.obs evss)).map (fun o => items (o.getD [])) := by
    rw [List.map_map]; rfl
  rw [this, map_lookupBy_self _ evss hn hl.symm, List.map_map]
  rfl

theorem otmBins_nodup (t : Table Rat) (evss : List Events) : (otmBins t evss).Nodup :=
  (perm_sortS _).nodup_iff.mpr (nodup_firsts _)

theorem mem_otmBins (t : Table Rat) (evss : List Events) (b : String) :
    b ∈ otmBins t evss ↔ b ∈ (allItems t evss).map (·.2) :=
  (perm_sortS _).mem_iff.trans (mem_firsts _ _)

theorem mem_otmBins_iff_exists (t : Table Rat) (evss : List Events) (b : String) :
    b ∈ otmBins t evss ↔ ∃ id ∈ t.obs, ∃ p ∈ itemsOf t evss id, p.2 = b := by
  rw [mem_otmBins, List.mem_map]
  constructor
  · rintro ⟨p, hp, rfl⟩
    obtain ⟨l, hl, hpl⟩ := List.mem_flatten.mp hp
    obtain ⟨id, hid, rfl⟩ := List.mem_map.mp hl
    exact ⟨id, hid, p, hpl, rfl⟩
  · rintro ⟨id, hid, p, hp, rfl⟩
    exact ⟨p, List.mem_flatten.mpr ⟨_, List.mem_map_of_mem hid, hp⟩, rfl⟩

theorem items_sub_bins (t : Table Rat) (evss : List Events) {id : Id} (hid : id ∈ t.obs) :
    ∀ p ∈ itemsOf t evss id, p.2 ∈ otmBins t evss :=
  fun p hp => (mem_otmBins_iff_exists t evss _).mpr ⟨id, hid, p, hp, rfl⟩

theorem otmO_noMd (t : Table Rat) (evss : List Events) (divide strict icm : Bool) (key : String)
    (h : t.omd.isNone = true) : otmO t evss divide strict icm key = .error .type := by
  rw [otmO, if_pos h]

theorem otmO_strict (t : Table Rat) (evss : List Events) (divide strict icm : Bool) (key : String)
    (hmd : t.omd.isNone = false) (h : (strict && evss.any (fun evs => evs.any Option.isNone)) = true) :
    otmO t evss divide strict icm key = .error .index := by
  rw [otmO, if_neg (ne_true_of_eq_false hmd), if_pos h]

theorem otmO_eq (t : Table Rat) (hn : t.obs.Nodup) (evss : List Events) (hl : evss.length = t.obs.length)
    (divide strict icm : Bool) (key : String) (hmd : t.omd.isNone = false)
    (hstrict : (strict && evss.any (fun evs => evs.any Option.isNone)) = false) :
    otmO t evss divide strict icm key = .ok (otmTable t evss divide icm key) := by
  rw [otmO, if_neg (ne_true_of_eq_false hmd), if_neg (ne_true_of_eq_false hstrict)]
  unfold otmTable otmBins allItems otmRow
  rw [items_by_id t hn evss hl]

theorem otmRow_rows_len (t : Table Rat) (ht : TableOk t) (evss : List Events) (divide : Bool) (b : String) :
    ∀ r ∈ (t.rows.zip (evss.map items)).map (fun ri => ri.1.map (fun v => weight divide b ri.2 * v)),
      r.length = t.samp.length := by
  intro r hr
  obtain ⟨ri, hri, rfl⟩ := List.mem_map.mp hr
  rw [List.length_map]
  exact ht.wf.2.1 _ (List.of_mem_zip hri).1

/-- what one vector adds to a bin's cell, from the vector and the vector's items as looked up by ID -/
def otmG (samp : List Id) (s : Id) (w : List (String × String) → Rat) (o1 : Option (List Rat))
    (o2 : Option (List (String × String))) : Rat :=
  w (o2.getD []) * ((o1.bind (fun r => lookupBy samp r s)).getD 0)

theorem getD_map_mul (o : Option Rat) (w : Rat) : (o.map (fun v => w * v)).getD 0 = w * o.getD 0 := by
  cases o
  · exact (Rat.mul_zero w).symm
  · rfl

/-- `otm_cell` at the oriented level -/
theorem otmRow_cell (t : Table Rat) (ht : TableOk t) (evss : List Events) (hl : evss.length = t.obs.length)
    (divide : Bool) (b : String) {s : Id} (hs : s ∈ t.samp) :
    lookupBy t.samp (otmRow t evss divide b) s =
      some (sumOver t.obs (fun id => weight divide b (itemsOf t evss id) * cellD t id s)) := by
  unfold otmRow
  rw [lookupBy_sumRows t.samp hs _ (otmRow_rows_len t ht evss divide b), List.map_map]
  have h1 : ((fun r => (lookupBy t.samp r s).getD 0) ∘
      fun (ri : List Rat × List (String × String)) => ri.1.map (fun v => weight divide b ri.2 * v)) =
      fun ri => otmG t.samp s (weight divide b) (some ri.1) (some ri.2) :=
    funext fun ri => by rw [Function.comp, lookupBy_map, getD_map_mul]; rfl
  rw [h1, zip_map_eq_ids_map ht.obsNodup t.rows (evss.map items) (otmG t.samp s (weight divide b)) ht.wf.1
    ((List.length_map _).trans hl)]
  refine congrArg some (congrArg sumL (List.map_congr_left fun id _ => ?_))
  rw [lookupBy_map]
  unfold otmG cellD Table.cell? Table.row? itemsOf
  cases lookupBy t.obs evss id <;> rfl

theorem otmTable_cell (t : Table Rat) (ht : TableOk t) (evss : List Events) (hl : evss.length = t.obs.length)
    (divide icm : Bool) (key : String) {b : String} (hb : b ∈ otmBins t evss) {s : Id} (hs : s ∈ t.samp) :
    (otmTable t evss divide icm key).cell? b s =
      some (sumOver t.obs (fun id => weight divide b (itemsOf t evss id) * cellD t id s)) := by
  show (lookupBy (otmBins t evss) ((otmBins t evss).map (otmRow t evss divide)) b).bind _ = _
  rw [lookupBy_map_self _ _ _ hb]
  exact otmRow_cell t ht evss hl divide b hs

theorem otmTable_wf (t : Table Rat) (ht : TableOk t) (evss : List Events) (divide icm : Bool) (key : String) :
    (otmTable t evss divide icm key).WF :=
  wf_of_keys _ _ _ _ _ _ _ _ rfl (fun b _ => sumRows_length _ _ (otmRow_rows_len t ht evss divide b))
    (fun m hm => ht.wf.2.2.2 m (normMd_some hm))

theorem otmO_wf (t : Table Rat) (ht : TableOk t) (evss : List Events) (hl : evss.length = t.obs.length)
    (divide strict icm : Bool) (key : String) (r : Table Rat)
    (h : otmO t evss divide strict icm key = .ok r) : r.WF := by
  cases hmd : t.omd.isNone with
  | true => rw [otmO_noMd t evss divide strict icm key hmd] at h; cases h
  | false =>
    cases hst : (strict && evss.any (fun evs => evs.any Option.isNone)) with
    | true => rw [otmO_strict t evss divide strict icm key hmd hst] at h; cases h
    | false =>
      rw [otmO_eq t ht.obsNodup evss hl divide strict icm key hmd hst] at h
      cases h
      exact otmTable_wf t ht evss divide icm key

theorem otmTable_mdOf (t : Table Rat) (evss : List Events) (divide : Bool) (key : String) {b : String}
    (hb : b ∈ otmBins t evss) :
    (otmTable t evss divide true key).mdOf? .obs b = some [(key, lastPath (allItems t evss) b)] := by
  have hne : (otmBins t evss).isEmpty = false := List.isEmpty_eq_false_iff_exists_mem.mpr ⟨b, hb⟩
  unfold Table.mdOf? otmTable
  simp only [Table.md, Table.ids, hne, Bool.true_and, Bool.not_false, if_true, Option.bind_some]
  exact lookupBy_map_self _ _ _ hb

/-- `otm_divide_conserves` at the oriented level -/
theorem otmTable_divide_conserve (t : Table Rat) (ht : TableOk t) (evss : List Events)
    (hl : evss.length = t.obs.length) (icm : Bool) (key : String) {s : Id} (hs : s ∈ t.samp) :
    sumOver (otmTable t evss true icm key).obs (fun b => cellD (otmTable t evss true icm key) b s) =
      sumOver (t.obs.filter (fun id => !(itemsOf t evss id).isEmpty)) (fun id => cellD t id s) := by
  have hcell : ∀ b ∈ otmBins t evss, cellD (otmTable t evss true icm key) b s =
      sumL (t.obs.map (fun id => weight true b (itemsOf t evss id) * cellD t id s)) :=
    fun b hb => congrArg (·.getD 0) (otmTable_cell t ht evss hl true icm key hb hs)
  have hinner : ∀ id ∈ t.obs,
      sumL ((otmBins t evss).map (fun b => weight true b (itemsOf t evss id) * cellD t id s)) =
        (if (itemsOf t evss id).isEmpty then (0 : Rat) else 1) * cellD t id s :=
    fun id hid => by
      rw [sumL_map_mul_right, weight_sum _ (otmBins_nodup t evss) _ (items_sub_bins t evss hid)]
  show sumL ((otmBins t evss).map _) = _
  -- Σ over bins of Σ over vectors = Σ over vectors of (Σ over bins of its weights) × its count
  rw [List.map_congr_left hcell,
    sumL_comm (otmBins t evss) t.obs (fun b id => weight true b (itemsOf t evss id) * cellD t id s),
    List.map_congr_left hinner]
  exact sumL_indicator_mul t.obs (fun id => (itemsOf t evss id).isEmpty) (fun id => cellD t id s)

/-- the one-to-many predicate holds of what the model computes (oriented level) -/
theorem holdsOtmO_model (t : Table Rat) (ht : TableOk t) (evss : List Events) (hl : evss.length = t.obs.length)
    (divide strict icm : Bool) (key : String) :
    (holdsOtmO t evss divide strict icm key (otmO t evss divide strict icm key)).ok = true := by
  unfold holdsOtmO
  cases hmd : t.omd.isNone with
  | true => rw [otmO_noMd t evss divide strict icm key hmd, if_pos rfl]; rfl
  | false =>
    rw [if_neg Bool.false_ne_true]
    cases hst : (strict && evss.any (fun evs => evs.any Option.isNone)) with
    | true => rw [otmO_strict t evss divide strict icm key hmd hst, if_pos rfl]; rfl
    | false =>
      rw [otmO_eq t ht.obsNodup evss hl divide strict icm key hmd hst, if_neg Bool.false_ne_true]
      simp only [Clauses.ok_cons, Clauses.ok_nil, Bool.and_true, Bool.and_eq_true, decide_eq_true_eq,
        List.all_eq_true, List.contains_iff_mem, Layer.table_wfb_iff]
      refine ⟨otmTable_wf t ht evss divide icm key, otmBins_nodup t evss,
        ⟨fun b hb => (mem_otmBins t evss b).mpr hb, fun b hb => (mem_otmBins t evss b).mp hb⟩,
        fun b hb s hs => otmTable_cell t ht evss hl divide icm key hb hs, ?_,
        ⟨⟨rfl, fun s _ => mdD_normMd_samp s rfl rfl⟩, rfl⟩, ?_⟩
      · cases icm with
        | true =>
          rw [if_pos rfl, List.all_eq_true]
          exact fun b hb => decide_eq_true (otmTable_mdOf t evss divide key hb)
        | false => rfl
      · cases divide with
        | false => rfl
        | true =>
          rw [if_pos rfl, List.all_eq_true]
          exact fun s hs => decide_eq_true (otmTable_divide_conserve t ht evss hl icm key hs)

end Biom.C11
