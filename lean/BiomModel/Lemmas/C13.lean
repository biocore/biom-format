/-
  C13 — helper lemmas: list surgery for the in-place slice assignment, the loop invariant of the
  kernel, the row-pointer arithmetic of `eliminate_zeros`, the dense view of an entry list, and one
  run of `Table.transform` under the contract `Pre` as an equation (`transform_run`).
-/
import BiomModel.C13
import BiomModel.Lemmas.Layer
namespace Biom.C13
variable {α β γ δ : Type}

/-! ### list surgery: writing a block into the middle of a list -/

/-- `xs[s : s + len w] = w` for a block that fits -/
def splice (xs : List β) (s : Nat) (w : List β) : List β := xs.take s ++ w ++ xs.drop (s + w.length)

section splice
variable {xs w : List β} {s : Nat}

theorem splice_length (h : s + w.length ≤ xs.length) : (splice xs s w).length = xs.length := by
  simp only [splice, List.length_append, List.length_take, List.length_drop,
    Nat.min_eq_left (Nat.le_trans (Nat.le_add_right s _) h), Nat.add_assoc]
  rw [← Nat.add_assoc, Nat.add_sub_cancel' h]

theorem take_splice {b : Nat} (hb : b ≤ s) (hs : s ≤ xs.length) : (splice xs s w).take b = xs.take b := by
  have hl : b ≤ (xs.take s).length := List.length_take ▸ Nat.le_min.mpr ⟨hb, Nat.le_trans hb hs⟩
  rw [splice, List.append_assoc, List.take_append_of_le_length hl, List.take_take, Nat.min_eq_left hb]

theorem drop_splice {a : Nat} (ha : s + w.length ≤ a) (hs : s ≤ xs.length) :
    (splice xs s w).drop a = xs.drop a := by
  have hl : (xs.take s ++ w).length = s + w.length := by
    rw [List.length_append, List.length_take, Nat.min_eq_left hs]
  obtain ⟨c, rfl⟩ := Nat.exists_eq_add_of_le ha
  rw [splice, ← hl, List.drop_length_add_append, List.drop_drop]

theorem splice_block (hs : s ≤ xs.length) : ((splice xs s w).drop s).take w.length = w := by
  have hl : (xs.take s).length = s := by rw [List.length_take, Nat.min_eq_left hs]
  rw [splice, List.append_assoc]
  generalize xs.take s = A at hl
  subst hl
  rw [List.drop_left, List.take_left]

end splice

/-- what the loop needs of a row pointer over an array of length `L` (`CS.WF` gives it for the
value and for the index array) -/
structure PtrOK (P : List Nat) (n L : Nat) : Prop where
  len : P.length = n + 1
  mono : ∀ i, i < n → P.getD i 0 ≤ P.getD (i + 1) 0
  last : P.getD n 0 = L

theorem PtrOK.mono_le {P : List Nat} {n L : Nat} (h : PtrOK P n L) {i j : Nat} (hij : i ≤ j) (hj : j ≤ n) :
    P.getD i 0 ≤ P.getD j 0 := by
  induction j with
  | zero => rw [Nat.le_zero.mp hij]; exact Nat.le_refl _
  | succ j ih =>
    rcases Nat.le_succ_iff.mp hij with h' | rfl
    · exact Nat.le_trans (ih h' (Nat.le_of_succ_le hj)) (h.mono j hj)
    · exact Nat.le_refl _

theorem PtrOK.le_last {P : List Nat} {n L : Nat} (h : PtrOK P n L) {i : Nat} (hi : i ≤ n) :
    P.getD i 0 ≤ L := h.last ▸ h.mono_le hi (Nat.le_refl _)

def mdIdx (mds : Option (List Md)) (i : Nat) : Option Md := mds.bind (·[i]?)

theorem mdAt_ok (mds : Option (List Md)) (i : Nat) (h : ∀ m, mds = some m → i < m.length) :
    mdAt mds i = .ok (mdIdx mds i) := by
  cases mds with
  | none => rfl
  | some m => rw [mdAt, mdIdx, Option.bind_some, List.getElem?_eq_getElem (h m rfl)]

theorem assign_length {seg r w : List α} (h : assign seg r = .ok w) : w.length = seg.length := by
  unfold assign at h
  split at h
  · cases h; assumption
  · split at h
    · cases h; exact List.length_replicate
    · cases h

theorem segOf_eq_drop_take (P : List Nat) (xs : List β) (i : Nat) :
    segOf P xs i = (xs.take (P.getD (i + 1) 0)).drop (P.getD i 0) := List.drop_take.symm

section ptr
variable {P : List Nat} {n L : Nat} (hP : PtrOK P n L) {xs : List β} (hx : xs.length = L)
include hP hx

theorem segOf_length {i : Nat} (hi : i < n) : (segOf P xs i).length = P.getD (i + 1) 0 - P.getD i 0 := by
  rw [segOf, List.length_take, List.length_drop]
  exact Nat.min_eq_left (Nat.sub_le_sub_right (hx ▸ hP.le_last (i := i + 1) hi) _)

theorem segOf_fits {i : Nat} (hi : i < n) : P.getD i 0 + (segOf P xs i).length ≤ xs.length := by
  rw [segOf_length hP hx hi, Nat.add_sub_cancel' (hP.mono i hi)]
  exact hx ▸ hP.le_last (i := i + 1) hi

variable {i : Nat} (hi : i < n) {w : List β}
include hi

theorem segOf_splice_lt {j : Nat} (hj : j < i) : segOf P (splice xs (P.getD i 0) w) j = segOf P xs j := by
  rw [segOf_eq_drop_take, segOf_eq_drop_take,
    take_splice (hP.mono_le (i := j + 1) hj (Nat.le_of_lt hi)) (hx ▸ hP.le_last (Nat.le_of_lt hi))]

variable (hw : w.length = (segOf P xs i).length)
include hw

theorem segOf_splice_self : segOf P (splice xs (P.getD i 0) w) i = w := by
  rw [segOf, ← segOf_length hP hx hi, ← hw]
  exact splice_block (hx ▸ hP.le_last (Nat.le_of_lt hi))

theorem segOf_splice_gt {j : Nat} (hj : i < j) (hjn : j < n) :
    segOf P (splice xs (P.getD i 0) w) j = segOf P xs j := by
  have h : P.getD i 0 + w.length ≤ P.getD j 0 := by
    rw [hw, segOf_length hP hx hi, Nat.add_sub_cancel' (hP.mono i hi)]
    exact hP.mono_le (i := i + 1) hj (Nat.le_of_lt hjn)
  rw [segOf, segOf, drop_splice h (hx ▸ hP.le_last (Nat.le_of_lt hi))]

end ptr

def callAt (f : VFun α) (P : List Nat) (ids : List Id) (mds : Option (List Md)) (data : List α) (j : Nat) : Call α :=
  ⟨ids.getD j "", mdIdx mds j, segOf P data j, f (segOf P data j) (ids.getD j "") (mdIdx mds j)⟩

section loop
variable {f : VFun α} {P : List Nat} {ids : List Id} {mds : Option (List Md)} {n L : Nat}
  (hP : PtrOK P n L) (hids : n ≤ ids.length) (hmd : ∀ m, mds = some m → n ≤ m.length)
include hP hids hmd

theorem kLoop_succ (k : Nat) {i : Nat} (hi : i < n) (data : List α) :
    kLoop f P ids mds (k + 1) i data =
      (assign (segOf P data i) (callAt f P ids mds data i).ret >>= fun w =>
        kLoop f P ids mds k (i + 1)
            (data.take (P.getD i 0) ++ w ++ data.drop (P.getD i 0 + (segOf P data i).length)) >>= fun r =>
          pure (r.1, callAt f P ids mds data i :: r.2)) := by
  rw [kLoop, getE_getD P i 0 (hP.len.symm ▸ Nat.lt_succ_of_lt hi),
    getE_getD P (i + 1) 0 (hP.len.symm ▸ Nat.succ_lt_succ hi), getE_getD ids i "" (Nat.lt_of_lt_of_le hi hids),
    mdAt_ok mds i fun m hm => Nat.lt_of_lt_of_le hi (hmd m hm)]
  rfl

theorem kLoop_succ_ok (k : Nat) {i : Nat} (hi : i < n) {data w : List α}
    (hw : assign (segOf P data i) (callAt f P ids mds data i).ret = .ok w) :
    kLoop f P ids mds (k + 1) i data =
      (kLoop f P ids mds k (i + 1) (splice data (P.getD i 0) w)).map
        fun r => (r.1, callAt f P ids mds data i :: r.2) := by
  rw [kLoop_succ hP hids hmd k hi, hw, ← assign_length hw]
  show (kLoop f P ids mds k (i + 1) (splice data (P.getD i 0) w) >>= _) = _
  cases kLoop f P ids mds k (i + 1) (splice data (P.getD i 0) w) <;> rfl

/-- The loop invariant, from vector `i` on with `k` to go. The slices are disjoint, so writing slice
`i` leaves every later slice as it was: each call sees its slice of the array the loop STARTED
with. A run that succeeds has written to slice `j ≥ i` what `assign` makes of call `j`'s result
and left the slices before `i` alone; a run that fails has a call whose result cannot be assigned.
Both partial correctness and totality of the kernel are read off this one statement. -/
theorem kLoop_inv : ∀ k i data, i + k = n → data.length = L →
    match kLoop f P ids mds k i data with
    | .ok (d, l) => d.length = L ∧ (∀ j, j < i → segOf P d j = segOf P data j) ∧
        l = (List.range' i k).map (callAt f P ids mds data) ∧
        ∀ j, i ≤ j → j < n → assign (segOf P data j) (callAt f P ids mds data j).ret = .ok (segOf P d j)
    | .error _ => ∃ j, i ≤ j ∧ j < n ∧ ∀ w, assign (segOf P data j) (callAt f P ids mds data j).ret ≠ .ok w := by
  intro k
  induction k with
  | zero =>
    intro i data hik hL
    exact ⟨hL, fun _ _ => rfl, rfl, fun j h1 h2 => absurd (Nat.lt_of_lt_of_le h2 (hik ▸ h1)) (Nat.lt_irrefl _)⟩
  | succ k ih =>
    intro i data hik hL
    have hi : i < n := hik ▸ Nat.lt_add_of_pos_right (Nat.succ_pos k)
    have hik' : i + 1 + k = n := (Nat.add_right_comm i 1 k).trans hik
    cases hw : assign (segOf P data i) (callAt f P ids mds data i).ret with
    | error e =>
      rw [kLoop_succ hP hids hmd k hi, hw]
      exact ⟨i, Nat.le_refl _, hi, fun w h => by rw [hw] at h; cases h⟩
    | ok w =>
      have hwl := assign_length hw
      have hgt := fun j => segOf_splice_gt hP hL hi hwl (j := j)
      have hcall : ∀ j, i < j → j < n →
          callAt f P ids mds (splice data (P.getD i 0) w) j = callAt f P ids mds data j :=
        fun j h1 h2 => by simp only [callAt, hgt j h1 h2]
      have := ih (i + 1) (splice data (P.getD i 0) w) hik'
        ((splice_length (hwl ▸ segOf_fits hP hL hi)).trans hL)
      rw [kLoop_succ_ok hP hids hmd k hi hw]
      cases hres : kLoop f P ids mds k (i + 1) (splice data (P.getD i 0) w) with
      | error e =>
        rw [hres] at this
        obtain ⟨j, h1, h2, h3⟩ := this
        exact ⟨j, Nat.le_of_succ_le h1, h2, by rw [← hgt j h1 h2, ← hcall j h1 h2]; exact h3⟩
      | ok r =>
        obtain ⟨d, l⟩ := r
        rw [hres] at this
        obtain ⟨h1, h2, h3, h4⟩ := this
        refine ⟨h1, fun j hj => ?_, ?_, fun j hij hjn => ?_⟩
        · rw [h2 j (Nat.lt_succ_of_lt hj), segOf_splice_lt hP hL hi hj]
        · show _ :: l = _
          rw [List.range'_succ, List.map_cons, h3]
          congr 1
          exact List.map_congr_left fun j hj =>
            hcall j (List.mem_range'_1.mp hj).1 (hik' ▸ (List.mem_range'_1.mp hj).2)
        · rcases Nat.eq_or_lt_of_le hij with rfl | hlt
          · rw [h2 i (Nat.lt_succ_self i), segOf_splice_self hP hL hi hwl]; exact hw
          · rw [← hgt j hlt hjn, ← hcall j hlt hjn]; exact h4 j hlt hjn

end loop

/-! ### the kernel on a well-formed matrix -/

def idxSeg (cs : CS α) (j : Nat) : List Nat := segOf cs.indptr cs.indices j
def valSeg (cs : CS α) (j : Nat) : List α := segOf cs.indptr cs.data j

theorem ptrOK_of_wf (cs : CS α) (h : cs.WF) : PtrOK cs.indptr cs.nMajor cs.data.length :=
  ⟨h.ptrLen, h.ptrMono, h.ptrLast⟩

theorem transformKernel_eq (f : VFun α) (ids : List Id) (mds : Option (List Md)) (cs : CS α) :
    transformKernel f ids mds cs =
      (kLoop f cs.indptr ids mds cs.nMajor 0 cs.data).map fun r => ({ cs with data := r.1 }, r.2) := by
  unfold transformKernel
  cases kLoop f cs.indptr ids mds cs.nMajor 0 cs.data <;> rfl

section kernel
variable {f : VFun α} {ids : List Id} {mds : Option (List Md)} {cs : CS α} (hwf : cs.WF)
  (hids : cs.nMajor ≤ ids.length) (hmd : ∀ m, mds = some m → cs.nMajor ≤ m.length)
include hwf hids hmd

theorem transformKernel_spec {cs' : CS α} {log : List (Call α)}
    (h : transformKernel f ids mds cs = .ok (cs', log)) :
    ∃ d, cs' = { cs with data := d } ∧ d.length = cs.data.length ∧
      log = (List.range cs.nMajor).map (callAt f cs.indptr ids mds cs.data) ∧
      ∀ j, j < cs.nMajor →
        assign (valSeg cs j) (f (valSeg cs j) (ids.getD j "") (mdIdx mds j)) = .ok (segOf cs.indptr d j) := by
  have := kLoop_inv (f := f) (ptrOK_of_wf cs hwf) hids hmd cs.nMajor 0 cs.data (Nat.zero_add _) rfl
  rw [transformKernel_eq] at h
  cases hk : kLoop f cs.indptr ids mds cs.nMajor 0 cs.data with
  | error e => rw [hk] at h; cases h
  | ok r =>
    obtain ⟨d, l⟩ := r
    rw [hk] at h this
    cases h
    exact ⟨d, rfl, this.1, List.range_eq_range' ▸ this.2.2.1, fun j hj => this.2.2.2 j (Nat.zero_le j) hj⟩

theorem transformKernel_total
    (hf : ∀ j, j < cs.nMajor → ∃ w, assign (valSeg cs j) (f (valSeg cs j) (ids.getD j "") (mdIdx mds j)) = .ok w) :
    ∃ cs' log, transformKernel f ids mds cs = .ok (cs', log) := by
  have := kLoop_inv (f := f) (ptrOK_of_wf cs hwf) hids hmd cs.nMajor 0 cs.data (Nat.zero_add _) rfl
  rw [transformKernel_eq]
  cases hk : kLoop f cs.indptr ids mds cs.nMajor 0 cs.data with
  | ok r => exact ⟨_, _, rfl⟩
  | error e =>
    rw [hk] at this
    obtain ⟨j, _, hj, hn⟩ := this
    obtain ⟨w, hw⟩ := hf j hj
    exact absurd hw (hn w)

end kernel

/-! ### ptrFrom / ofEntries: the row pointer is the running total of the vector lengths -/

theorem ptrFrom_eq (a : Nat) (ls : List Nat) : ptrFrom a ls = a :: runSums a ls := by
  induction ls generalizing a with
  | nil => rfl
  | cons l ls ih => rw [ptrFrom, ih, runSums]

theorem ofEntries_indptr_getD (nM nm : Nat) (ents : List (List (Nat × α))) (i : Nat) (hi : i ≤ ents.length) :
    (ofEntries nM nm ents).indptr.getD i 0 = offs (ents.map List.length) i := by
  rw [ofEntries, ptrFrom_eq]
  exact ptr_getD _ i (by rwa [List.length_map])

theorem slice_ofEntries (nM nm : Nat) (ents : List (List (Nat × α))) (i : Nat) (hi : i < ents.length) :
    (ofEntries nM nm ents).slice i = ents[i] :=
  CS.slice_of_entries _ ents i hi (ofEntries_indptr_getD _ _ _ _ (Nat.le_of_lt hi))
    (ofEntries_indptr_getD _ _ _ _ hi) rfl rfl

theorem length_flatten_map_map (g : β → γ) (L : List (List β)) :
    (L.map (·.map g)).flatten.length = (L.map List.length).sum := by
  rw [List.length_flatten, List.map_map]
  exact congrArg List.sum (List.map_congr_left fun l _ => List.length_map _)

theorem ofEntries_wf (n m : Nat) (ents : List (List (Nat × α))) (hlen : ents.length = n)
    (hr : ∀ l ∈ ents, ∀ e ∈ l, e.1 < m) (hd : ∀ l ∈ ents, (l.map (·.1)).Nodup) : (ofEntries n m ents).WF := by
  have hdata : (ofEntries n m ents).data.length = (ents.map List.length).sum := length_flatten_map_map _ ents
  have hidx : (ofEntries n m ents).indices.length = (ents.map List.length).sum := length_flatten_map_map _ ents
  have hn : (ents.map List.length).length = n := by rw [List.length_map, hlen]
  refine ⟨?_, ?_, ?_, ?_, hidx.trans hdata.symm, ?_, ?_⟩
  · show (ptrFrom 0 _).length = n + 1
    rw [ptrFrom_eq, List.length_cons, runSums_length, hn]
  · show (ptrFrom 0 _)[0]? = some 0
    rw [ptrFrom_eq]; rfl
  · intro i hi
    have hi' : i < ents.length := hlen ▸ hi
    rw [ofEntries_indptr_getD _ _ _ _ (Nat.le_of_lt hi'), ofEntries_indptr_getD _ _ _ _ hi',
      offs_succ _ _ (hn.symm ▸ hi)]
    exact Nat.le_add_right _ _
  · show (ofEntries n m ents).indptr.getD n 0 = _
    rw [ofEntries_indptr_getD _ _ _ _ (Nat.le_of_eq hlen.symm), hdata, ← hn, CS.offs_full]
  · intro j hj
    simp only [ofEntries, List.mem_flatten, List.mem_map] at hj
    obtain ⟨l', ⟨l, hl, rfl⟩, hj⟩ := hj
    obtain ⟨e, he, rfl⟩ := List.mem_map.mp hj
    exact hr l hl e he
  · intro i hi
    have hi' : i < ents.length := hlen ▸ hi
    rw [slice_ofEntries n m ents i hi']
    exact hd _ (List.getElem_mem hi')

/-! ### dense view of an entry list -/

/-- value at minor position `j` with an explicit default (`CS.entryAt` is `lookD 0`) -/
def lookD (d : γ) (ents : List (Nat × γ)) (j : Nat) : γ :=
  match ents.find? (fun e => e.1 == j) with
  | some e => e.2
  | none => d

theorem entryAt_eq_lookD [Zero α] (ents : List (Nat × α)) (j : Nat) : CS.entryAt ents j = lookD 0 ents j := rfl

theorem lookD_nil (d : γ) (j : Nat) : lookD d [] j = d := rfl

theorem lookD_cons_eq (d : γ) (e : Nat × γ) (es : List (Nat × γ)) : lookD d (e :: es) e.1 = e.2 := by
  simp [lookD, List.find?]

theorem lookD_cons_ne (d : γ) (e : Nat × γ) (es : List (Nat × γ)) (j : Nat) (h : e.1 ≠ j) :
    lookD d (e :: es) j = lookD d es j := by
  have : (e.1 == j) = false := by simpa using h
  simp [lookD, List.find?, this]

theorem lookD_not_mem (d : γ) (ents : List (Nat × γ)) (j : Nat) (h : j ∉ ents.map (·.1)) : lookD d ents j = d := by
  induction ents with
  | nil => rfl
  | cons e es ih =>
    simp only [List.map_cons, List.mem_cons, not_or] at h
    rw [lookD_cons_ne d e es j (fun h' => h.1 h'.symm)]
    exact ih h.2

theorem lookD_mem (d : γ) (ents : List (Nat × γ)) (j : Nat) (h : lookD d ents j ≠ d) : j ∈ ents.map (·.1) :=
  Classical.byContradiction (fun hn => h (lookD_not_mem d ents j hn))

theorem lookD_of_mem (d : γ) (ents : List (Nat × γ)) (hn : (ents.map (·.1)).Nodup) (e : Nat × γ) (he : e ∈ ents) :
    lookD d ents e.1 = e.2 := by
  induction ents with
  | nil => cases he
  | cons x xs ih =>
    simp only [List.map_cons, List.nodup_cons] at hn
    rcases List.mem_cons.mp he with h | h
    · subst h; exact lookD_cons_eq d e xs
    · have : x.1 ≠ e.1 := by
        intro hx
        exact hn.1 (hx ▸ List.mem_map_of_mem (f := (·.1)) h)
      rw [lookD_cons_ne d x xs e.1 this]
      exact ih hn.2 h

theorem lookD_map (h : γ → δ) (d : γ) (ents : List (Nat × γ)) (j : Nat) :
    lookD (h d) (ents.map (Prod.map id h)) j = h (lookD d ents j) := by
  induction ents with
  | nil => rfl
  | cons e es ih =>
    rw [List.map_cons]
    by_cases hj : e.1 = j
    · subst hj
      exact (lookD_cons_eq (h d) (Prod.map id h e) _).trans (congrArg h (lookD_cons_eq d e es).symm)
    · rw [lookD_cons_ne (h d) (Prod.map id h e) _ j hj, lookD_cons_ne d e es j hj, ih]

theorem lookD_zip_mem (d : γ) (idx : List Nat) (xs : List γ) (hn : idx.Nodup) (hl : xs.length = idx.length)
    (k : Nat) (hk : k ∈ idx) : lookD d (idx.zip xs) k ∈ xs := by
  have hmf : (idx.zip xs).map (·.1) = idx := List.map_fst_zip (Nat.le_of_eq hl.symm)
  obtain ⟨e, he, rfl⟩ := List.mem_map.mp (hmf.symm ▸ hk)
  rw [lookD_of_mem d (idx.zip xs) (hmf.symm ▸ hn) e he]
  exact (List.of_mem_zip he).2

theorem lookD_zip_pair (d1 d2 : γ) (j : Nat) (idx : List Nat) (a b : List γ) (h : a.length = b.length) :
    lookD (d1, d2) (idx.zip (a.zip b)) j = (lookD d1 (idx.zip a) j, lookD d2 (idx.zip b) j) := by
  have ha := lookD_map Prod.fst (d1, d2) (idx.zip (a.zip b)) j
  have hb := lookD_map Prod.snd (d1, d2) (idx.zip (a.zip b)) j
  rw [← List.zip_map_right, List.map_fst_zip (Nat.le_of_eq h)] at ha
  rw [← List.zip_map_right, List.map_snd_zip (Nat.le_of_eq h.symm)] at hb
  rw [ha, hb]

/-- what an element-wise function makes of a cell: zero stays zero -/
def zmap [Zero α] [DecidableEq α] (g : α → α) (x : α) : α := if x = 0 then 0 else g x

theorem zmap_of_zero [Zero α] [DecidableEq α] (g : α → α) (h0 : g 0 = 0) : zmap g = g :=
  funext fun x => by
    by_cases h : x = 0
    · rw [zmap, if_pos h, h, h0]
    · exact if_neg h

theorem lookD_zip_map [Zero α] [DecidableEq α] (g : α → α) (j : Nat) (idx : List Nat) (a : List α)
    (hnz : ∀ x ∈ a, x ≠ 0) :
    lookD 0 (idx.zip (a.map g)) j = zmap g (lookD 0 (idx.zip a) j) := by
  have hg : a.map (zmap g) = a.map g := List.map_congr_left fun x hx => if_neg (hnz x hx)
  have := lookD_map (zmap g) 0 (idx.zip a) j
  rwa [← List.zip_map_right, hg, show zmap g 0 = 0 from if_pos rfl] at this

theorem perm_filter_lookD (P : γ → Bool) (d : γ) (hd : P d = false) :
    ∀ (ents : List (Nat × γ)) (js : List Nat), (ents.map (·.1)).Nodup → js.Nodup →
      (∀ e ∈ ents, e.1 ∈ js) → (∀ e ∈ ents, P e.2 = true) →
      ((js.map (lookD d ents)).filter P).Perm (ents.map (·.2)) := by
  intro ents
  induction ents with
  | nil =>
    intro js _ _ _ _
    rw [List.filter_eq_nil_iff.mpr fun x hx => by
      obtain ⟨j, _, rfl⟩ := List.mem_map.mp hx
      rw [lookD_nil, hd]; exact Bool.false_ne_true]
    exact .nil
  | cons e es ih =>
    intro js hn hjs hmem hP
    rw [List.map_cons, List.nodup_cons] at hn
    -- bring the position of `e` to the front of `js`; the other positions do not see `e`
    refine (((List.perm_cons_erase (hmem e List.mem_cons_self)).map _).filter _).trans ?_
    rw [List.map_cons, lookD_cons_eq, List.filter_cons_of_pos (hP e List.mem_cons_self), List.map_cons,
      List.map_congr_left fun j hj =>
        lookD_cons_ne d e es j fun h => ((List.Nodup.mem_erase_iff hjs).mp hj).1 h.symm]
    refine (ih _ hn.2 (hjs.erase _) (fun e' he' => ?_) fun e' he' => hP e' (List.mem_cons_of_mem _ he')).cons _
    rw [List.Nodup.mem_erase_iff hjs]
    exact ⟨fun h => hn.1 (h ▸ List.mem_map_of_mem (f := (·.1)) he'), hmem e' (List.mem_cons_of_mem _ he')⟩

/-! ### one vector: minor indices `idx`, stored values `seg` before and `w` after -/

def dv [Zero α] (m : Nat) (idx : List Nat) (xs : List α) : List α := CS.denseVec m (idx.zip xs)

theorem dv_eq_map [Zero α] (m : Nat) (idx : List Nat) (xs : List α) :
    dv m idx xs = (List.range m).map (lookD 0 (idx.zip xs)) := rfl

theorem dv_length [Zero α] (m : Nat) (idx : List Nat) (xs : List α) : (dv m idx xs).length = m :=
  denseVec_length m _

theorem dv_length_eq [Zero α] (m : Nat) (idx : List Nat) (xs ys : List α) :
    (dv m idx xs).length = (dv m idx ys).length := (dv_length m idx xs).trans (dv_length m idx ys).symm

theorem zip_dv [Zero α] (m : Nat) (idx : List Nat) (xs ys : List α) :
    (dv m idx xs).zip (dv m idx ys) =
      (List.range m).map fun k => (lookD 0 (idx.zip xs) k, lookD 0 (idx.zip ys) k) := by
  rw [dv_eq_map, dv_eq_map, List.zip_map']

/-- a cell without a stored entry is zero after the call, whatever the function does -/
theorem vec_unstored [Zero α] (idx : List Nat) (w : List α) (hw : w.length = idx.length) (k : Nat)
    (hk : k ∉ idx) : lookD 0 (idx.zip w) k = 0 := by
  apply lookD_not_mem
  rwa [List.map_fst_zip (Nat.le_of_eq hw.symm)]

/-- zero cells stay zero (no stored zeros before the call) -/
theorem vec_zeros [Zero α] [DecidableEq α] (m : Nat) (idx : List Nat) (seg w : List α) (hn : idx.Nodup)
    (hs : seg.length = idx.length) (hw : w.length = idx.length) (hnz : ∀ x ∈ seg, x ≠ 0) :
    ∀ p ∈ (dv m idx seg).zip (dv m idx w), p.1 = 0 → p.2 = 0 := by
  intro p hp h0
  rw [zip_dv] at hp
  obtain ⟨k, _, rfl⟩ := List.mem_map.mp hp
  exact vec_unstored idx w hw k fun hk => hnz _ (lookD_zip_mem 0 idx seg hn hs k hk) h0

theorem nz_length_le [Zero α] [DecidableEq α] (v w : List α) (h : v.length = w.length)
    (hz : ∀ p ∈ v.zip w, p.1 = 0 → p.2 = 0) : (nz w).length ≤ (nz v).length := by
  have key : (nz ((v.zip w).map Prod.snd)).length ≤ (nz ((v.zip w).map Prod.fst)).length := by
    rw [nz, nz, ← List.countP_eq_length_filter, ← List.countP_eq_length_filter, List.countP_map, List.countP_map]
    exact List.countP_mono_left fun p hp h2 => by
      simp only [Function.comp, decide_eq_true_eq] at h2 ⊢
      exact fun h1 => h2 (hz p hp h1)
  rwa [List.map_fst_zip (Nat.le_of_eq h), List.map_snd_zip (Nat.le_of_eq h.symm)] at key

theorem perm_filter_dense (P : γ → Bool) (d : γ) (hd : P d = false) (m : Nat) (idx : List Nat) (xs : List γ)
    (hn : idx.Nodup) (hr : ∀ j ∈ idx, j < m) (hl : xs.length = idx.length) (hP : ∀ x ∈ xs, P x = true) :
    (((List.range m).map (lookD d (idx.zip xs))).filter P).Perm xs := by
  have hmf : (idx.zip xs).map (·.1) = idx := List.map_fst_zip (Nat.le_of_eq hl.symm)
  have := perm_filter_lookD P d hd (idx.zip xs) (List.range m) (hmf.symm ▸ hn) List.nodup_range
    (fun e he => List.mem_range.mpr (hr _ (List.of_mem_zip he).1)) (fun e he => hP _ (List.of_mem_zip he).2)
  rwa [List.map_snd_zip (Nat.le_of_eq hl)] at this

/-- the stored values are exactly (as a multiset) the non-zero values of the vector -/
theorem vec_args [Zero α] [DecidableEq α] (m : Nat) (idx : List Nat) (seg : List α) (hn : idx.Nodup)
    (hr : ∀ j ∈ idx, j < m) (hs : seg.length = idx.length) (hnz : ∀ x ∈ seg, x ≠ 0) :
    seg.Perm (nz (dv m idx seg)) :=
  (perm_filter_dense (fun x : α => decide (x ≠ 0)) 0 (decide_eq_false (not_not_intro rfl)) m idx seg hn hr hs
    fun x hx => decide_eq_true (hnz x hx)).symm

theorem vec_pairs [Zero α] [DecidableEq α] (m : Nat) (idx : List Nat) (seg w : List α) (hn : idx.Nodup)
    (hr : ∀ j ∈ idx, j < m) (hs : seg.length = idx.length) (hw : w.length = idx.length)
    (hnz : ∀ x ∈ seg, x ≠ 0) :
    (seg.zip w).Perm (nzPairs (dv m idx seg) (dv m idx w)) := by
  have := perm_filter_dense (fun p : α × α => decide (p.1 ≠ 0)) (0, 0) (decide_eq_false (not_not_intro rfl)) m idx
    (seg.zip w) hn hr (by rw [List.length_zip, hs, hw, Nat.min_self])
    fun p hp => decide_eq_true (hnz _ (List.of_mem_zip hp).1)
  rw [nzPairs, zip_dv]
  refine this.symm.trans (List.Perm.of_eq (congrArg _ (List.map_congr_left fun k _ => ?_)))
  exact lookD_zip_pair 0 0 k idx seg w (hs.trans hw.symm)

theorem vec_elem [Zero α] [DecidableEq α] (g : α → α) (m : Nat) (idx : List Nat) (seg : List α)
    (hnz : ∀ x ∈ seg, x ≠ 0) :
    dv m idx (seg.map g) = (dv m idx seg).map (zmap g) := by
  rw [dv_eq_map, dv_eq_map, List.map_map]
  exact List.map_congr_left fun k _ => lookD_zip_map g k idx seg hnz

/-! ### the whole matrix -/

theorem valSeg_length (cs : CS α) (h : cs.WF) (j : Nat) (hj : j < cs.nMajor) :
    (valSeg cs j).length = (idxSeg cs j).length := by
  rw [valSeg, idxSeg, segOf_length (ptrOK_of_wf cs h) rfl hj, segOf_length (ptrOK_of_wf cs h) h.sameLen hj]

theorem slice_eq (cs : CS α) (i : Nat) :
    cs.slice i = (segOf cs.indptr cs.indices i).zip (segOf cs.indptr cs.data i) := rfl

theorem slice_fst (cs : CS α) (j : Nat) (h : (valSeg cs j).length = (idxSeg cs j).length) :
    (cs.slice j).map (·.1) = idxSeg cs j := List.map_fst_zip (Nat.le_of_eq h.symm)

theorem slice_snd (cs : CS α) (j : Nat) (h : (valSeg cs j).length = (idxSeg cs j).length) :
    (cs.slice j).map (·.2) = valSeg cs j := List.map_snd_zip (Nat.le_of_eq h)

theorem idxSeg_nodup (cs : CS α) (h : cs.WF) (j : Nat) (hj : j < cs.nMajor) : (idxSeg cs j).Nodup :=
  slice_fst cs j (valSeg_length cs h j hj) ▸ h.distinct j hj

theorem idxSeg_inRange (cs : CS α) (h : cs.WF) (j : Nat) : ∀ k ∈ idxSeg cs j, k < cs.nMinor :=
  fun k hk => h.inRange k (List.mem_of_mem_drop (List.mem_of_mem_take hk))

theorem valSeg_mem (cs : CS α) (j : Nat) : ∀ x ∈ valSeg cs j, x ∈ cs.data :=
  fun _ hx => List.mem_of_mem_drop (List.mem_of_mem_take hx)

theorem valSeg_nonzero [Zero α] [DecidableEq α] {cs : CS α} (hnz : cs.NoStoredZeros) (j : Nat) :
    ∀ x ∈ valSeg cs j, x ≠ 0 :=
  fun x hx => hnz x (valSeg_mem cs j x hx)

section stored
variable [Zero α] [DecidableEq α] {cs : CS α} (hwf : cs.WF) (hnz : cs.NoStoredZeros) {j : Nat} (hj : j < cs.nMajor)
include hwf hnz hj

theorem seg_args : (valSeg cs j).Perm (nz (dv cs.nMinor (idxSeg cs j) (valSeg cs j))) :=
  vec_args _ _ _ (idxSeg_nodup cs hwf j hj) (idxSeg_inRange cs hwf j) (valSeg_length cs hwf j hj)
    (valSeg_nonzero hnz j)

variable {w : List α} (hw : w.length = (valSeg cs j).length)
include hw

theorem seg_pairs :
    ((valSeg cs j).zip w).Perm (nzPairs (dv cs.nMinor (idxSeg cs j) (valSeg cs j)) (dv cs.nMinor (idxSeg cs j) w)) :=
  vec_pairs _ _ _ _ (idxSeg_nodup cs hwf j hj) (idxSeg_inRange cs hwf j) (valSeg_length cs hwf j hj)
    (hw.trans (valSeg_length cs hwf j hj)) (valSeg_nonzero hnz j)

theorem seg_zeros :
    ∀ p ∈ (dv cs.nMinor (idxSeg cs j) (valSeg cs j)).zip (dv cs.nMinor (idxSeg cs j) w), p.1 = 0 → p.2 = 0 :=
  vec_zeros _ _ _ _ (idxSeg_nodup cs hwf j hj) (valSeg_length cs hwf j hj)
    (hw.trans (valSeg_length cs hwf j hj)) (valSeg_nonzero hnz j)

theorem seg_nz_le :
    (nz (dv cs.nMinor (idxSeg cs j) w)).length ≤ (nz (dv cs.nMinor (idxSeg cs j) (valSeg cs j))).length :=
  nz_length_le _ _ (dv_length_eq _ _ _ _) (seg_zeros hwf hnz hj hw)

end stored

theorem wf_setData {cs : CS α} (h : cs.WF) {d : List α} (hd : d.length = cs.data.length) :
    ({ cs with data := d } : CS α).WF where
  ptrLen := h.ptrLen
  ptrZero := h.ptrZero
  ptrMono := h.ptrMono
  ptrLast := h.ptrLast.trans hd.symm
  sameLen := h.sameLen.trans hd.symm
  inRange := h.inRange
  distinct j hj := by
    have hl : (segOf cs.indptr d j).length = (idxSeg cs j).length := by
      rw [idxSeg, segOf_length (ptrOK_of_wf cs h) hd hj, segOf_length (ptrOK_of_wf cs h) h.sameLen hj]
    exact (slice_fst { cs with data := d } j hl).symm ▸ idxSeg_nodup cs h j hj

theorem toDense_eq [Zero α] (cs : CS α) :
    cs.toDense = (List.range cs.nMajor).map (fun j => dv cs.nMinor (idxSeg cs j) (valSeg cs j)) := rfl

theorem slice_eliminateZeros [Zero α] [DecidableEq α] (cs : CS α) {j : Nat} (hj : j < cs.nMajor) :
    (eliminateZeros cs).slice j = (cs.slice j).filter fun e => decide (e.2 ≠ 0) := by
  rw [eliminateZeros, slice_ofEntries _ _ _ j (by rwa [List.length_map, List.length_range]), List.getElem_map,
    List.getElem_range]

/-- `eliminate_zeros` does not change the dense content -/
theorem eliminateZeros_toDense [Zero α] [DecidableEq α] (cs : CS α)
    (hd : ∀ j, j < cs.nMajor → ((cs.slice j).map (·.1)).Nodup) :
    (eliminateZeros cs).toDense = cs.toDense := by
  refine List.map_congr_left fun j hj => ?_
  have hj' : j < cs.nMajor := List.mem_range.mp hj
  show CS.denseVec cs.nMinor ((eliminateZeros cs).slice j) = _
  rw [slice_eliminateZeros cs hj']
  exact CS.denseVec_dropZeros _ _ (hd j hj')

/-- …and leaves no stored zero -/
theorem eliminateZeros_noStoredZeros [Zero α] [DecidableEq α] (cs : CS α) :
    ∀ v ∈ (eliminateZeros cs).data, v ≠ 0 := by
  intro v hv
  simp only [eliminateZeros, ofEntries, List.mem_flatten, List.mem_map] at hv
  obtain ⟨l, ⟨ents, ⟨j, _, rfl⟩, rfl⟩, hvl⟩ := hv
  obtain ⟨e, he, rfl⟩ := List.mem_map.mp hvl
  exact of_decide_eq_true (List.mem_filter.mp he).2

theorem storedZeros_eliminateZeros [Zero α] [DecidableEq α] (cs : CS α) : storedZeros (eliminateZeros cs) = 0 := by
  rw [storedZeros, List.length_eq_zero_iff, List.filter_eq_nil_iff]
  exact fun x hx => by simpa using eliminateZeros_noStoredZeros cs x hx

theorem eliminateZeros_wf [Zero α] [DecidableEq α] (cs : CS α) (h : cs.WF) : (eliminateZeros cs).WF := by
  refine ofEntries_wf _ _ _ (by rw [List.length_map, List.length_range]) ?_ ?_
  · intro l hl e he
    obtain ⟨i, _, rfl⟩ := List.mem_map.mp hl
    exact idxSeg_inRange cs h i e.1 (List.of_mem_zip (List.mem_filter.mp he).1).1
  · intro l hl
    obtain ⟨i, hi, rfl⟩ := List.mem_map.mp hl
    exact (h.distinct i (List.mem_range.mp hi)).sublist (List.filter_sublist.map _)

/-! ### from the flat matrix to vectors looked up by ID -/

theorem map_getD_range_take (xs : List β) (d : β) (n : Nat) (h : n ≤ xs.length) :
    (List.range n).map (fun i => xs.getD i d) = xs.take n := by
  induction n generalizing xs with
  | zero => rfl
  | succ n ih =>
    cases xs with
    | nil => cases h
    | cons x xs =>
      rw [List.range_succ_eq_map, List.map_cons, List.map_map, List.take_succ_cons]
      exact congrArg (x :: ·) (ih xs (Nat.le_of_succ_le_succ h))

theorem vec?_major (t : Table α) (ax : Axis) (hn : (t.ids ax).Nodup) (j : Nat)
    (hj : j < (t.ids ax).length) : t.vec? ax ((t.ids ax).getD j "") = (majorGrid t ax)[j]? := by
  cases ax with
  | obs => exact lookupBy_getD t.obs t.rows hn j hj
  | samp =>
    show (indexOf? t.samp (t.samp.getD j "")).map (colAt t.rows) = (transposeGrid t.samp.length t.rows)[j]?
    rw [indexOf?_getD t.samp hn j hj, transposeGrid_getElem?, if_pos (show j < t.samp.length from hj)]; rfl

theorem vec?_setMajor (t : Table α) (ax : Axis) (hn : (t.ids ax).Nodup) (g : List (List α))
    (hg : g.length = (t.ids ax).length) (hrect : ∀ r ∈ g, r.length = (t.ids ax.other).length) (j : Nat)
    (hj : j < (t.ids ax).length) : (setMajorGrid t ax g).vec? ax ((t.ids ax).getD j "") = g[j]? := by
  cases ax with
  | obs => exact lookupBy_getD t.obs g hn j hj
  | samp =>
    show (indexOf? t.samp (t.samp.getD j "")).map (colAt (transposeGrid t.obs.length g)) = g[j]?
    -- column `j` of the transpose is row `j` of the transpose's transpose, which is `g`
    have := transposeGrid_getElem? g.length (transposeGrid t.obs.length g) j
    rw [Layer.transposeGrid_transposeGrid (m := t.obs.length) rfl hrect, if_pos (hg ▸ hj)] at this
    rw [indexOf?_getD t.samp hn j hj, this]; rfl

theorem mdOf?_getD (t : Table α) (ax : Axis) (hn : (t.ids ax).Nodup) (j : Nat)
    (hj : j < (t.ids ax).length) : t.mdOf? ax ((t.ids ax).getD j "") = mdIdx (t.md ax) j := by
  unfold Table.mdOf? mdIdx
  cases t.md ax with
  | none => rfl
  | some m => exact lookupBy_getD (t.ids ax) m hn j hj

theorem setMajorGrid_frame (t : Table α) (ax : Axis) (g : List (List α)) :
    (setMajorGrid t ax g).obs = t.obs ∧ (setMajorGrid t ax g).samp = t.samp ∧ (setMajorGrid t ax g).omd = t.omd ∧
    (setMajorGrid t ax g).smd = t.smd ∧ (setMajorGrid t ax g).ttype = t.ttype := by
  cases ax <;> exact ⟨rfl, rfl, rfl, rfl, rfl⟩

theorem setMajorGrid_wf (t : Table α) (h : t.WF) (ax : Axis) (g : List (List α))
    (hg : g.length = (t.ids ax).length) (hrect : ∀ r ∈ g, r.length = (t.ids ax.other).length) :
    (setMajorGrid t ax g).WF := by
  cases ax with
  | obs => exact ⟨hg, hrect, h.2.2⟩
  | samp =>
    have hs := Layer.transposeGrid_shape t.obs.length g hrect
    exact ⟨hs.1, fun r hr => (hs.2 r hr).trans hg, h.2.2⟩

/-! ### one run of `Table.transform` -/

/-- the contract between a table and the matrix `_get_sparse_data(axis)` hands to the kernel -/
structure Pre [Zero α] [DecidableEq α] (t : Table α) (ax : Axis) (cs : CS α) : Prop where
  twf : t.wfb = true
  nodup : (t.ids ax).Nodup
  cswf : cs.WF
  nMajor : cs.nMajor = (t.ids ax).length
  nMinor : cs.nMinor = (t.ids ax.other).length
  dense : cs.toDense = majorGrid t ax
  noZeros : cs.NoStoredZeros

def LenPres (f : VFun α) : Prop := ∀ v id md, (f v id md).length = v.length

theorem assign_lenPres {f : VFun α} (hf : LenPres f) (v : List α) (id : Id) (md : Option Md) :
    assign v (f v id md) = .ok (f v id md) := if_pos (hf v id md)

def retOf (f : VFun α) (t : Table α) (ax : Axis) (cs : CS α) (j : Nat) : List α :=
  f (valSeg cs j) ((t.ids ax).getD j "") (mdIdx (t.md ax) j)

def newGrid [Zero α] (f : VFun α) (t : Table α) (ax : Axis) (cs : CS α) : List (List α) :=
  (List.range cs.nMajor).map (fun j => dv cs.nMinor (idxSeg cs j) (retOf f t ax cs j))

theorem newGrid_length [Zero α] (f : VFun α) (t : Table α) (ax : Axis) (cs : CS α) :
    (newGrid f t ax cs).length = cs.nMajor := by
  rw [newGrid, List.length_map, List.length_range]

/-- what `Table.transform` lets an observer see when the function preserves lengths -/
def runObs [Zero α] (f : VFun α) (ax : Axis) (inplace : Bool) (t : Table α) (cs : CS α) : Obs α where
  log := (List.range cs.nMajor).map (callAt f cs.indptr (t.ids ax) (t.md ax) cs.data)
  result := setMajorGrid t ax (newGrid f t ax cs)
  selfAfter := if inplace then setMajorGrid t ax (newGrid f t ax cs) else t
  sameObj := inplace
  storedZeros := 0

section run
variable [Zero α] [DecidableEq α] {t : Table α} {ax : Axis} {cs : CS α} (hp : Pre t ax cs)
include hp

theorem Pre.ids_le : cs.nMajor ≤ (t.ids ax).length := Nat.le_of_eq hp.nMajor

theorem Pre.md_le : ∀ m, t.md ax = some m → cs.nMajor ≤ m.length := fun m hm =>
  Nat.le_of_eq (hp.nMajor.trans (md_length t ((Layer.table_wfb_iff t).mp hp.twf) ax m hm).symm)

theorem newGrid_rect (f : VFun α) : ∀ r ∈ newGrid f t ax cs, r.length = (t.ids ax.other).length := by
  intro r hr
  obtain ⟨k, _, rfl⟩ := List.mem_map.mp hr
  rw [dv_length, hp.nMinor]

theorem transform_run (f : VFun α) (inplace : Bool) (hf : LenPres f) :
    transform f ax inplace t cs = .ok (runObs f ax inplace t cs) := by
  obtain ⟨cs', log, hk⟩ := transformKernel_total hp.cswf hp.ids_le hp.md_le
    (fun j _ => ⟨_, assign_lenPres hf _ _ _⟩)
  obtain ⟨d, rfl, hlen, rfl, hw⟩ := transformKernel_spec hp.cswf hp.ids_le hp.md_le hk
  have hdense : (eliminateZeros { cs with data := d }).toDense = newGrid f t ax cs := by
    rw [eliminateZeros_toDense _ (wf_setData hp.cswf hlen).distinct]
    refine List.map_congr_left fun j hj => ?_
    have := hw j (List.mem_range.mp hj)
    rw [assign_lenPres hf] at this
    exact congrArg (dv cs.nMinor (idxSeg cs j)) (Except.ok.inj this).symm
  unfold transform
  rw [hk]
  show Except.ok _ = _
  rw [runObs, hdense, storedZeros_eliminateZeros]

theorem vec_old (j : Nat) (hj : j < cs.nMajor) :
    t.vec? ax ((t.ids ax).getD j "") = some (dv cs.nMinor (idxSeg cs j) (valSeg cs j)) := by
  rw [vec?_major t ax hp.nodup j (hp.nMajor ▸ hj), ← hp.dense, toDense_eq, List.getElem?_map,
    List.getElem?_range hj]
  rfl

theorem vec_new (f : VFun α) (inplace : Bool) (j : Nat) (hj : j < cs.nMajor) :
    (runObs f ax inplace t cs).result.vec? ax ((t.ids ax).getD j "") =
      some (dv cs.nMinor (idxSeg cs j) (retOf f t ax cs j)) := by
  rw [runObs, vec?_setMajor t ax hp.nodup _ ((newGrid_length f t ax cs).trans hp.nMajor) (newGrid_rect hp f) j
    (hp.nMajor ▸ hj), newGrid, List.getElem?_map, List.getElem?_range hj]
  rfl

theorem vecs_of_id (f : VFun α) (inplace : Bool) (id : Id) (h : id ∈ t.ids ax) : ∃ j, j < cs.nMajor ∧
    t.vec? ax id = some (dv cs.nMinor (idxSeg cs j) (valSeg cs j)) ∧
    (runObs f ax inplace t cs).result.vec? ax id = some (dv cs.nMinor (idxSeg cs j) (retOf f t ax cs j)) := by
  obtain ⟨j, hj, rfl⟩ := List.getElem_of_mem h
  rw [List.getElem_eq_getD ""]
  exact ⟨j, hp.nMajor ▸ hj, vec_old hp j (hp.nMajor ▸ hj), vec_new hp f inplace j (hp.nMajor ▸ hj)⟩

end run
end Biom.C13
