/-
  C03 — helper lemmas: blanks, split/join, the last field, a line of fields, triples, the loops case by
  case, line ends.
-/
import BiomModel.C03

namespace Biom.C03

/-! ### blanks -/

def NoLead (s : Text) : Prop := ∀ c t, s = c :: t → ws c = false
def NoTrail (s : Text) : Prop := ∀ c, s.getLast? = some c → ws c = false
def AllWs (e : Text) : Prop := ∀ c ∈ e, ws c = true

theorem rstrip_allWs (e : Text) (h : AllWs e) : rstrip e = [] := by
  induction e with
  | nil => rfl
  | cons c t ih =>
    obtain ⟨hc, ht⟩ := List.forall_mem_cons.mp h
    simp [rstrip, ih ht, hc]

theorem rstrip_append_ws (s e : Text) (h : AllWs e) : rstrip (s ++ e) = rstrip s := by
  induction s with
  | nil => exact rstrip_allWs e h
  | cons c t ih => simp only [List.cons_append, rstrip, ih]

theorem strip_append_ws (s e : Text) (h : AllWs e) : strip (s ++ e) = strip s := by
  simp only [strip, rstrip_append_ws s e h]

theorem rstrip_cons (c : Char) (t : Text) (h : rstrip t ≠ [] ∨ ws c = false) :
    rstrip (c :: t) = c :: rstrip t := by
  rw [rstrip]
  cases hr : rstrip t with
  | nil => rw [if_neg (by rw [h.resolve_left (absurd hr)]; exact Bool.false_ne_true)]
  | cons a r => rfl

theorem rstrip_of_noTrail (s : Text) (h : NoTrail s) : rstrip s = s := by
  induction s with
  | nil => rfl
  | cons c t ih =>
    cases t with
    | nil => exact rstrip_cons c [] (.inr (h c rfl))
    | cons d u =>
      have ht : NoTrail (d :: u) := fun x hx => h x (by simpa [List.getLast?_cons_cons] using hx)
      have e := ih ht
      rw [rstrip_cons c (d :: u) (.inl (by rw [e]; exact List.cons_ne_nil _ _)), e]

theorem lstrip_of_noLead (s : Text) (h : NoLead s) : lstrip s = s := by
  cases s with
  | nil => rfl
  | cons c t =>
    simp [lstrip, List.dropWhile, h c t rfl]

theorem strip_of_clean (s : Text) (h1 : NoLead s) (h2 : NoTrail s) : strip s = s := by
  simp only [strip, rstrip_of_noTrail s h2, lstrip_of_noLead s h1]

theorem strip_ne_nil (s : Text) (hne : s ≠ []) (h : NoLead s) : strip s ≠ [] := by
  cases s with
  | nil => exact absurd rfl hne
  | cons c t =>
    have hc := h c t rfl
    rw [strip, rstrip_cons c t (.inr hc), lstrip,
      List.dropWhile_cons_of_neg (by rw [hc]; exact Bool.false_ne_true)]
    exact List.cons_ne_nil _ _

theorem noLead_append (s r : Text) (hne : s ≠ []) (h : NoLead s) : NoLead (s ++ r) := by
  cases s with
  | nil => exact absurd rfl hne
  | cons c t =>
    intro x u e
    simp only [List.cons_append, List.cons.injEq] at e
    exact e.1 ▸ h c t rfl

theorem noTrail_append (s r : Text) (hne : r ≠ []) (h : NoTrail r) : NoTrail (s ++ r) := by
  intro c hc
  rw [List.getLast?_append] at hc
  cases hr : r.getLast? with
  | none => exact absurd (List.getLast?_eq_none_iff.mp hr) hne
  | some x =>
    rw [hr] at hc
    simp only [Option.some_or, Option.some.injEq] at hc
    exact hc ▸ h x hr

theorem noTrail_cons (d : Char) (r : Text) (hne : r ≠ []) (h : NoTrail r) : NoTrail (d :: r) :=
  noTrail_append [d] r hne h

theorem startsHash_append (s r : Text) (hne : s ≠ []) : startsHash (s ++ r) = startsHash s := by
  cases s with
  | nil => exact absurd rfl hne
  | cons c t => rfl

/-! ### split / join -/

theorem split_ne_nil (d : Char) (s : Text) : split d s ≠ [] := by
  cases s with
  | nil => simp [split]
  | cons c t =>
    simp only [split]
    split
    · exact List.cons_ne_nil _ _
    · cases split d t <;> simp [consHead]

theorem split_of_not_mem (d : Char) (s : Text) (h : d ∉ s) : split d s = [s] := by
  induction s with
  | nil => rfl
  | cons c t ih =>
    simp [split, (List.ne_of_not_mem_cons h).symm, ih (List.not_mem_of_not_mem_cons h), consHead]

theorem split_append_cons (d : Char) (f rest : Text) (h : d ∉ f) :
    split d (f ++ d :: rest) = f :: split d rest := by
  induction f with
  | nil => simp [split]
  | cons c t ih =>
    simp [split, (List.ne_of_not_mem_cons h).symm, ih (List.not_mem_of_not_mem_cons h), consHead]

/-- Joining fields with a delimiter none of them contains, then splitting at it, gives the fields back. -/
theorem split_join (d : Char) (fs : List Text) (h : ∀ f ∈ fs, d ∉ f) (hne : fs ≠ []) :
    split d (join d fs) = fs := by
  induction fs with
  | nil => exact absurd rfl hne
  | cons f gs ih =>
    obtain ⟨hf, hgs⟩ := List.forall_mem_cons.mp h
    cases gs with
    | nil => exact split_of_not_mem d f hf
    | cons g hs => rw [join, split_append_cons d f _ hf, ih hgs (List.cons_ne_nil _ _)]

theorem join_cons_ne_nil (d : Char) (f : Text) (gs : List Text) (h : gs ≠ []) :
    join d (f :: gs) = f ++ d :: join d gs := by
  cases gs with
  | nil => exact absurd rfl h
  | cons g hs => rfl

theorem join_append_singleton (d : Char) (fs : List Text) (m : Text) (h : fs ≠ []) :
    join d (fs ++ [m]) = join d fs ++ d :: m := by
  induction fs with
  | nil => exact absurd rfl h
  | cons f gs ih =>
    cases gs with
    | nil => simp [join]
    | cons g hs =>
      have := ih (List.cons_ne_nil _ _)
      simp only [List.cons_append, join] at this ⊢
      rw [this]; simp

theorem join_ends (d : Char) (o : Text) (fs : List Text) (hne : fs ≠ []) :
    ∃ p, o ++ d :: join d fs = p ++ d :: fs.getLast hne := by
  induction fs generalizing o with
  | nil => exact absurd rfl hne
  | cons f gs ih =>
    cases gs with
    | nil => exact ⟨o, by simp [join]⟩
    | cons g hs =>
      obtain ⟨p, hp⟩ := ih f (List.cons_ne_nil _ _)
      refine ⟨o ++ d :: p, ?_⟩
      simp only [join, List.getLast_cons_cons]
      rw [hp]; simp

/-! ### the last field -/

theorem stripLast_cons (f : Text) (gs : List Text) (h : gs ≠ []) :
    stripLast (f :: gs) = f :: stripLast gs := by
  cases gs with
  | nil => exact absurd rfl h
  | cons g hs => rfl

theorem stripLast_of_clean (fs : List Text) (h : ∀ f ∈ fs, strip f = f) : stripLast fs = fs := by
  induction fs with
  | nil => rfl
  | cons f gs ih =>
    obtain ⟨hf, hgs⟩ := List.forall_mem_cons.mp h
    cases gs with
    | nil => rw [stripLast, hf]
    | cons g hs => rw [stripLast, ih hgs]

theorem stripLast_append_singleton (fs : List Text) (m : Text) :
    stripLast (fs ++ [m]) = fs ++ [strip m] := by
  induction fs with
  | nil => rfl
  | cons f gs ih =>
    rw [List.cons_append, stripLast_cons f _ (by simp), ih]; rfl

theorem afterLast_of_not_mem (d : Char) (s : Text) (h : d ∉ s) : afterLast d s = s := by
  cases s with
  | nil => rfl
  | cons c t =>
    simp [afterLast, (List.ne_of_not_mem_cons h).symm, List.not_mem_of_not_mem_cons h]

theorem afterLast_append_cons (d : Char) (p l : Text) (h : d ∉ l) : afterLast d (p ++ d :: l) = l := by
  induction p with
  | nil => simp [afterLast, h]
  | cons c t ih => simp [afterLast, ih]

/-! ### a line of fields -/

/-- what the header loop and the data loop need to know of a line `o d f1 d … d fk` -/
theorem line_fields (d : Char) (o : Text) (fs : List Text) (h1 : o ≠ []) (h2 : d ∉ o) (h3 : NoLead o)
    (hne : fs ≠ []) (ht : ∀ f ∈ fs, d ∉ f) :
    let l := o ++ d :: join d fs
    strip l ≠ [] ∧ NoLead l ∧ startsHash l = startsHash o ∧ split d l = o :: fs ∧
      afterLast d l = fs.getLast hne := by
  intro l
  have nl : NoLead l := noLead_append o _ h1 h3
  refine ⟨strip_ne_nil l (List.append_ne_nil_of_left_ne_nil h1 _) nl, nl, startsHash_append o _ h1,
    (split_append_cons d o _ h2).trans (congrArg _ (split_join d fs ht hne)), ?_⟩
  obtain ⟨p, hp⟩ := join_ends d o fs hne
  show afterLast d (o ++ d :: join d fs) = _
  rw [hp, afterLast_append_cons d p _ (ht _ (List.getLast_mem hne))]

theorem noTrail_join_line (d : Char) (o : Text) (fs : List Text) (hne : fs ≠ [])
    (h1 : fs.getLast hne ≠ []) (h2 : NoTrail (fs.getLast hne)) : NoTrail (o ++ d :: join d fs) := by
  obtain ⟨p, hp⟩ := join_ends d o fs hne
  rw [hp]
  exact noTrail_append p _ (List.cons_ne_nil _ _) (noTrail_cons _ _ h1 h2)

/-! ### values and the entries of a grid -/

theorem parseAll_map_fmt (io : NumIO α) (r : List α) (h : ∀ v ∈ r, io.parse (io.fmt v) = some v) :
    parseAll io (r.map io.fmt) = some r := by
  induction r with
  | nil => rfl
  | cons v vs ih =>
    obtain ⟨hv, hvs⟩ := List.forall_mem_cons.mp h
    simp only [List.map_cons, parseAll, hv, ih hvs]

/-- the entries the data loop produces for a block of rows starting at row number `i` -/
def allTriples [Zero α] [DecidableEq α] : Nat → List (List α) → List (Nat × Nat × α)
  | _, [] => []
  | i, r :: rs => rowTriples i 0 r ++ allTriples (i + 1) rs

section triples
variable [Zero α] [DecidableEq α]

theorem rowTriples_mem (i j0 : Nat) (vs : List α) :
    ∀ t ∈ rowTriples i j0 vs, t.1 = i ∧ j0 ≤ t.2.1 ∧ t.2.1 < j0 + vs.length := by
  induction vs generalizing j0 with
  | nil => intro t ht; cases ht
  | cons v vs ih =>
    have hrest : ∀ t ∈ rowTriples i (j0 + 1) vs, t.1 = i ∧ j0 ≤ t.2.1 ∧ t.2.1 < j0 + (vs.length + 1) :=
      fun t ht => let ⟨a, b, c⟩ := ih (j0 + 1) t ht
        ⟨a, Nat.le_of_succ_le b, Nat.lt_of_lt_of_eq c (Nat.add_right_comm j0 1 _)⟩
    intro t ht
    rw [rowTriples] at ht
    by_cases hv : v = 0
    · rw [if_pos hv] at ht; exact hrest t ht
    · rw [if_neg hv] at ht
      rcases List.mem_cons.mp ht with e | ht
      · exact e ▸ ⟨rfl, Nat.le_refl _, Nat.lt_add_of_pos_right (Nat.succ_pos _)⟩
      · exact hrest t ht

theorem allTriples_mem (i0 : Nat) (rows : List (List α)) :
    ∀ t ∈ allTriples i0 rows, i0 ≤ t.1 ∧ t.1 < i0 + rows.length ∧ ∃ r ∈ rows, t.2.1 < r.length := by
  induction rows generalizing i0 with
  | nil => intro t ht; cases ht
  | cons r rs ih =>
    intro t ht
    rcases List.mem_append.mp ht with ht | ht
    · obtain ⟨a, _, c⟩ := rowTriples_mem i0 0 r t ht
      exact ⟨a ▸ Nat.le_refl _, a ▸ Nat.lt_add_of_pos_right (Nat.succ_pos _),
        r, List.mem_cons_self .., Nat.lt_of_lt_of_eq c (Nat.zero_add _)⟩
    · obtain ⟨a, b, x, hx, c⟩ := ih (i0 + 1) t ht
      exact ⟨Nat.le_of_succ_le a, Nat.lt_of_lt_of_eq b (Nat.add_right_comm i0 1 _),
        x, List.mem_cons_of_mem _ hx, c⟩

omit [DecidableEq α] in
theorem cellOf_cons_eq (i j : Nat) (v : α) (ts : List (Nat × Nat × α)) :
    cellOf ((i, j, v) :: ts) i j = v := by
  simp only [cellOf, List.find?_cons, beq_self_eq_true, Bool.and_self]

omit [DecidableEq α] in
theorem cellOf_cons_ne (t : Nat × Nat × α) (ts : List (Nat × Nat × α)) (i j : Nat)
    (h : t.1 ≠ i ∨ t.2.1 ≠ j) : cellOf (t :: ts) i j = cellOf ts i j := by
  have : (t.1 == i && t.2.1 == j) = false := by
    rcases h with h | h
    · rw [beq_false_of_ne h]; rfl
    · rw [beq_false_of_ne h]; exact Bool.and_false _
  simp only [cellOf, List.find?_cons, this]

omit [DecidableEq α] in
theorem cellOf_eq_zero (ts : List (Nat × Nat × α)) (i j : Nat) (h : ∀ t ∈ ts, t.1 ≠ i ∨ t.2.1 ≠ j) :
    cellOf ts i j = 0 := by
  induction ts with
  | nil => rfl
  | cons t ts ih =>
    obtain ⟨ht, hts⟩ := List.forall_mem_cons.mp h
    rw [cellOf_cons_ne t ts i j ht, ih hts]

theorem cellOf_rowTriples (i j0 k : Nat) (vs : List α) (ts : List (Nat × Nat × α)) (hts : ∀ t ∈ ts, t.1 ≠ i) :
    cellOf (rowTriples i j0 vs ++ ts) i (j0 + k) = (vs[k]?).getD 0 := by
  induction vs generalizing j0 k with
  | nil => exact cellOf_eq_zero ts i _ (fun t ht => .inl (hts t ht))
  | cons v vs ih =>
    rw [rowTriples]
    cases k with
    | zero =>
      by_cases hv : v = 0
      · -- a zero is not stored, and every entry after it is in a later column or another row
        rw [if_pos hv, hv]
        refine cellOf_eq_zero _ i _ (fun t ht => ?_)
        rcases List.mem_append.mp ht with ht | ht
        · exact .inr (Nat.ne_of_gt (rowTriples_mem i (j0 + 1) vs t ht).2.1)
        · exact .inl (hts t ht)
      · rw [if_neg hv]; exact cellOf_cons_eq i j0 v _
    | succ k =>
      have hk := ih (j0 + 1) k
      rw [Nat.add_right_comm j0 1 k] at hk
      by_cases hv : v = 0
      · rw [if_pos hv]; exact hk
      · rw [if_neg hv, List.cons_append,
          cellOf_cons_ne _ _ i _ (.inr (Nat.ne_of_lt (Nat.lt_add_of_pos_right (Nat.succ_pos k))))]
        exact hk

theorem cellOf_other_row (i i' j j0 : Nat) (vs : List α) (ts : List (Nat × Nat × α)) (h : i' ≠ i) :
    cellOf (rowTriples i' j0 vs ++ ts) i j = cellOf ts i j := by
  induction vs generalizing j0 with
  | nil => rfl
  | cons v vs ih =>
    rw [rowTriples]
    by_cases hv : v = 0
    · rw [if_pos hv]; exact ih _
    · rw [if_neg hv, List.cons_append, cellOf_cons_ne _ _ i j (.inl h)]; exact ih _

theorem cellOf_allTriples (i0 a j : Nat) (rows : List (List α)) :
    cellOf (allTriples i0 rows) (i0 + a) j = ((rows[a]?).bind (·[j]?)).getD 0 := by
  induction rows generalizing i0 a with
  | nil => rfl
  | cons r rs ih =>
    rw [allTriples]
    cases a with
    | zero =>
      have := cellOf_rowTriples i0 0 j r (allTriples (i0 + 1) rs)
        (fun t ht => Nat.ne_of_gt (allTriples_mem (i0 + 1) rs t ht).1)
      rwa [Nat.zero_add] at this
    | succ a =>
      have hs : i0 + 1 + a = i0 + (a + 1) := Nat.add_right_comm i0 1 a
      rw [cellOf_other_row _ _ _ _ _ _ (Nat.ne_of_lt (Nat.lt_add_of_pos_right (Nat.succ_pos a))), ← hs]
      exact ih (i0 + 1) a

theorem gridOf_allTriples (n m : Nat) (rows : List (List α)) (hn : rows.length = n)
    (hm : ∀ r ∈ rows, r.length = m) : gridOf n m (allTriples 0 rows) = rows := by
  apply List.ext_getElem
  · simp [gridOf, hn]
  · intro i h1 h2
    simp only [gridOf, List.getElem_map, List.getElem_range]
    have hri : (rows[i]).length = m := hm _ (List.getElem_mem h2)
    apply List.ext_getElem
    · simp [hri]
    · intro j h3 h4
      simp only [List.getElem_map, List.getElem_range]
      have := cellOf_allTriples (α := α) 0 i j rows
      simp only [Nat.zero_add] at this
      rw [this, List.getElem?_eq_getElem h2]
      simp [List.getElem?_eq_getElem h4]

end triples

/-! ### the two loops and the extractor, one case at a time -/

section
variable {l : Text} {ls : List Text} {h : Option (List Text)} {i : Nat}

theorem findHeader_blank (h1 : strip l = []) : findHeader (l :: ls) h i = findHeader ls h i := by
  rw [findHeader, if_pos h1]

theorem findHeader_hash (h1 : strip l ≠ []) (h2 : startsHash l = true) :
    findHeader (l :: ls) h i = findHeader ls (some (split '\t' (strip l)).tail) (i + 1) := by
  rw [findHeader, if_neg h1, h2]; rfl

theorem findHeader_row (h1 : strip l ≠ []) (h2 : startsHash l = false) :
    findHeader (l :: ls) h i =
      if falsy h then (some (split '\t' (rstrip l)).tail, i + 1) else (h, i) := by
  rw [findHeader, if_neg h1, h2]; rfl

end

section loops
variable [Zero α] [DecidableEq α]

/-- what the data loop makes of the fields of row `i`, given its outcome on the lines after it -/
def rowStep (io : NumIO α) (b : Bool) (i : Nat) (fields : List Text) (rest : Except Err (List Text × List (Nat × Nat × α) × List Text)) :
    Except Err (List Text × List (Nat × Nat × α) × List Text) :=
  match parseAll io (if b then fields.drop 1 else (fields.drop 1).dropLast) with
  | none => .error .type
  | some vals =>
    match rest with
    | .error e => .error e
    | .ok (os, ts, ms) =>
      .ok (fields.headD [] :: os, rowTriples i 0 vals ++ ts,
           if b then ms else (fields.getLast?.getD []) :: ms)

variable {io : NumIO α} {b : Bool} {l : Text} {ls : List Text} {i : Nat}

theorem dataLoop_blank (h : strip l = []) : dataLoop io b (l :: ls) i = dataLoop io b ls i := by
  rw [dataLoop, if_pos h]

theorem dataLoop_hash (h : startsHash l = true) : dataLoop io b (l :: ls) i = dataLoop io b ls i := by
  rw [dataLoop, if_pos h, ite_self]

theorem dataLoop_row (h1 : strip l ≠ []) (h2 : startsHash l = false) :
    dataLoop io b (l :: ls) i = rowStep io b i (stripLast (split '\t' l)) (dataLoop io b ls (i + 1)) := by
  rw [dataLoop, if_neg h1, h2]; rfl

variable {lines H : List Text} {k : Nat} {os ms : List Text} {ts : List (Nat × Nat × α)}

/-- every line after the header ends in a number: there is no metadata column -/
theorem extractData_numeric
    (hf : findHeader lines none 0 = (some H, k))
    (hn : (lines.drop k).all (fun l => (io.parse (strip (afterLast '\t' l))).isSome) = true)
    (hd : dataLoop io true (lines.drop k) 0 = .ok (os, ts, ms)) :
    extractData io lines = .ok { samp := H, obs := os, triples := ts, md := none, mdName := none } := by
  simp only [extractData, hf, hn, Bool.true_or, if_true, hd]

/-- some line after the header does not: the last column is metadata, named by the last header field -/
theorem extractData_md {nm : Text}
    (hf : findHeader lines none 0 = (some (H ++ [nm]), k + 1))
    (hn : (lines.drop (k + 1)).all (fun l => (io.parse (strip (afterLast '\t' l))).isSome) = false)
    (hd : dataLoop io false (lines.drop (k + 1)) 0 = .ok (os, ts, ms)) :
    extractData io lines =
      .ok { samp := H, obs := os, triples := ts, md := some ms, mdName := some nm } := by
  simp only [extractData, hf, hn, Bool.false_or, Nat.add_one_ne_zero, beq_iff_eq, if_false, hd,
    List.getLast?_concat, List.dropLast_concat]

end loops

/-! ### line ends: text after the last field that consists of blanks and has no tab

Splitting leaves such a suffix on the last field, and there it is stripped. -/

def appendLast (e : Text) : List Text → List Text
  | [] => []
  | [f] => [f ++ e]
  | f :: g :: fs => f :: appendLast e (g :: fs)

theorem appendLast_cons (e f : Text) (gs : List Text) (h : gs ≠ []) :
    appendLast e (f :: gs) = f :: appendLast e gs := by
  cases gs with
  | nil => exact absurd rfl h
  | cons g hs => rfl

theorem appendLast_consHead (e : Text) (c : Char) (X : List Text) (h : X ≠ []) :
    appendLast e (consHead c X) = consHead c (appendLast e X) := by
  cases X with
  | nil => exact absurd rfl h
  | cons f gs =>
    cases gs with
    | nil => rfl
    | cons g hs => rfl

theorem split_append_noDelim (d : Char) (s e : Text) (h : d ∉ e) :
    split d (s ++ e) = appendLast e (split d s) := by
  induction s with
  | nil => simpa [split, appendLast] using split_of_not_mem d e h
  | cons c t ih =>
    simp only [List.cons_append, split]
    split
    · rw [ih, appendLast_cons _ _ _ (split_ne_nil d t)]
    · rw [ih, appendLast_consHead _ _ _ (split_ne_nil d t)]

theorem stripLast_appendLast (e : Text) (X : List Text) (h : AllWs e) :
    stripLast (appendLast e X) = stripLast X := by
  induction X with
  | nil => rfl
  | cons f gs ih =>
    cases gs with
    | nil => exact congrArg (· :: []) (strip_append_ws f e h)
    | cons g hs =>
      have hne : appendLast e (g :: hs) ≠ [] := by cases hs <;> exact List.cons_ne_nil _ _
      rw [appendLast_cons e f _ (List.cons_ne_nil g hs), stripLast_cons f _ hne, ih]
      rfl

theorem afterLast_append_noDelim (d : Char) (s e : Text) (h : d ∉ e) :
    afterLast d (s ++ e) = afterLast d s ++ e := by
  induction s with
  | nil => exact afterLast_of_not_mem d e h
  | cons c t ih =>
    have : (t ++ e).contains d = t.contains d := by
      simp only [List.contains_eq_mem, List.mem_append, h, or_false]
    rw [List.cons_append, afterLast, afterLast, this]
    by_cases ht : t.contains d = true
    · rw [if_pos ht, if_pos ht, ih]
    · rw [if_neg ht, if_neg ht]
      by_cases hc : c = d
      · rw [if_pos hc, if_pos hc]
      · rw [if_neg hc, if_neg hc]; rfl

def EolOk (e : Text) : Prop := AllWs e ∧ '\t' ∉ e

/-- `ls'` is `ls` with a (possibly different, possibly empty) blank line end on every line -/
inductive EolRel : List Text → List Text → Prop where
  | nil : EolRel [] []
  | cons (l e : Text) (ls ls' : List Text) : EolOk e → EolRel ls ls' → EolRel (l :: ls) ((l ++ e) :: ls')

theorem EolRel.map_append (e : Text) (h : EolOk e) (ls : List Text) : EolRel ls (ls.map (· ++ e)) := by
  induction ls with
  | nil => exact .nil
  | cons l ls ih => exact .cons l e ls _ h ih

theorem EolRel.refl (ls : List Text) : EolRel ls ls := by
  induction ls with
  | nil => exact .nil
  | cons l ls ih =>
    have := EolRel.cons l [] ls ls ⟨(fun _ h => nomatch h), (by simp)⟩ ih
    simpa using this

theorem EolRel.drop (k : Nat) {ls ls' : List Text} (h : EolRel ls ls') : EolRel (ls.drop k) (ls'.drop k) := by
  induction k generalizing ls ls' with
  | zero => simpa using h
  | succ k ih =>
    cases h with
    | nil => exact .nil
    | cons l e ls ls' he hr => simpa using ih hr

theorem findHeader_eol {ls ls' : List Text} (h : EolRel ls ls') (hd : Option (List Text)) (i : Nat) :
    findHeader ls' hd i = findHeader ls hd i := by
  induction h generalizing hd i with
  | nil => rfl
  | cons l e ls ls' he _ ih =>
    have hs := strip_append_ws l e he.1
    by_cases hb : strip l = []
    · rw [findHeader_blank (hs.trans hb), findHeader_blank hb, ih]
    · have hh := startsHash_append l e (fun e0 => hb (by rw [e0]; rfl))
      cases hl : startsHash l
      · rw [findHeader_row (hs ▸ hb) (hh.trans hl), findHeader_row hb hl,
          rstrip_append_ws l e he.1]
      · rw [findHeader_hash (hs ▸ hb) (hh.trans hl), findHeader_hash hb hl, hs, ih]

theorem dataLoop_eol [Zero α] [DecidableEq α] (io : NumIO α) (b : Bool) {ls ls' : List Text}
    (h : EolRel ls ls') (i : Nat) : dataLoop io b ls' i = dataLoop io b ls i := by
  induction h generalizing i with
  | nil => rfl
  | cons l e ls ls' he _ ih =>
    have hs := strip_append_ws l e he.1
    by_cases hb : strip l = []
    · rw [dataLoop_blank (hs.trans hb), dataLoop_blank hb, ih]
    · have hh := startsHash_append l e (fun e0 => hb (by rw [e0]; rfl))
      cases hl : startsHash l
      · rw [dataLoop_row (hs ▸ hb) (hh.trans hl), dataLoop_row hb hl,
          split_append_noDelim '\t' l e he.2, stripLast_appendLast e _ he.1, ih]
      · rw [dataLoop_hash (hh.trans hl), dataLoop_hash hl, ih]

theorem numeric_eol (io : NumIO α) {ls ls' : List Text} (h : EolRel ls ls') :
    ls'.all (fun l => (io.parse (strip (afterLast '\t' l))).isSome) =
    ls.all (fun l => (io.parse (strip (afterLast '\t' l))).isSome) := by
  induction h with
  | nil => rfl
  | cons l e ls ls' he _ ih =>
    simp only [List.all_cons, afterLast_append_noDelim '\t' l e he.2, strip_append_ws _ e he.1, ih]

/-- Blank line ends (none, "\n", "\r\n", …) are invisible to the extractor. -/
theorem extractData_eol [Zero α] [DecidableEq α] (io : NumIO α) {ls ls' : List Text} (h : EolRel ls ls') :
    extractData io ls' = extractData io ls := by
  simp only [extractData, findHeader_eol h, numeric_eol io (h.drop _), dataLoop_eol io _ (h.drop _)]

theorem fromTsv_eol [Zero α] [DecidableEq α] (io : NumIO α) (proc : Text → ν) {ls ls' : List Text}
    (h : EolRel ls ls') : fromTsv io proc ls' = fromTsv io proc ls := by
  simp only [fromTsv, extractData_eol io h]

end Biom.C03
