/-
  C15 — helper lemmas: the Python primitives, inversion of each check of the JSON validator model and
  of all of them together (`ValidFacts`), the checks on the writer's records and coordinates, and the
  loader's `mapOpt`.
-/
import BiomModel.C15
import BiomModel.Lemmas.Layer

namespace Biom.C15

/-! ### Python primitives -/

/-- iterating a string or a dict yields strings only, so an iterable with a non-string element is a list -/
theorem pyIter_eq_arr {v : J} {l : List J} (h : pyIter v = some l) {x : J} (hx : x ∈ l)
    (hs : isStr x = false) : v = .arr l := by
  cases v with
  | arr l' => cases h; rfl
  | str s => cases h; obtain ⟨c, _, rfl⟩ := List.mem_map.1 hx; cases hs
  | obj kvs => cases h; obtain ⟨c, _, rfl⟩ := List.mem_map.1 hx; cases hs
  | _ => cases h

theorem isInt_eq {x : J} (h : x.isInt = true) : ∃ i, x = .int i := by
  cases x with
  | int i => exact ⟨i, rfl⟩
  | _ => cases h

theorem unpack2_pair (a b : J) : unpack2 (.arr [a, b]) = some (a, b) := rfl

theorem getItem_obj (kv : KVs) (k : String) : getItem (.obj kv) k = kv.lookup k := rfl

theorem pyEqNat_int {n : Nat} {r : Int} (h : pyEqNat n (.int r) = true) : (n : Int) = r :=
  (beq_iff_eq.1 h).symm

theorem ltInt_int (a x : Int) : Num.ltInt (.int a) x = decide (a < x) := rfl

/-! ### verdicts and keys -/

theorem verdictOf_valid (cs : List (Option Bool)) :
    verdictOf cs = .valid ↔ ∀ c ∈ cs, c = some true := by
  unfold verdictOf
  constructor
  · intro h c hc
    split at h
    · cases h
    · split at h
      · next h2 => exact eq_of_beq (List.all_eq_true.1 h2 c hc)
      · cases h
  · intro h
    rw [if_neg, if_pos]
    · exact List.all_eq_true.2 fun c hc => by rw [h c hc]; rfl
    · intro h1
      obtain ⟨c, hc, hn⟩ := List.any_eq_true.1 h1
      rw [h c hc] at hn
      cases hn

theorem validateJson_valid {d : String → Bool} {j : J} (h : validateJson d j = .valid) :
    ∃ kvs, j = .obj kvs ∧ ∀ c ∈ checksOf d kvs, c = some true := by
  cases j with
  | obj kvs => exact ⟨kvs, rfl, (verdictOf_valid _).1 h⟩
  | _ => simp only [validateJson] at h; split at h <;> cases h

theorem runKey_true {kvs : KVs} {k : String} {f : J → Option Bool} (h : runKey kvs k f = some true) :
    ∃ v, kvs.lookup k = some v ∧ f v = some true := by
  unfold runKey at h
  split at h
  · cases h
  · next v hv => exact ⟨v, hv, h⟩

theorem runKey_eq {kvs : KVs} {k : String} {v : J} (f : J → Option Bool) (h : kvs.lookup k = some v) :
    runKey kvs k f = f v := by
  unfold runKey; rw [h]

/-! ### shape and records -/

theorem validShape_true {v : J} (h : validShape v = some true) : ∃ r c, v = .arr [.int r, .int c] := by
  unfold validShape unpack2 at h
  split at h
  · cases h
  · next a b hu =>
    split at hu
    · next a' b' hp =>
      cases hu
      simp only [Option.some.injEq, Bool.and_eq_true] at h
      obtain ⟨r, rfl⟩ := isInt_eq h.1
      obtain ⟨c, rfl⟩ := isInt_eq h.2
      exact ⟨r, c, pyIter_eq_arr hp List.mem_cons_self rfl⟩
    · cases hu

theorem checkField_true {r : J} {k : String} {ok : J → Bool} (h : checkField r k ok = some true) :
    ∃ kv v, r = .obj kv ∧ kv.lookup k = some v ∧ ok v = true := by
  unfold checkField at h
  split at h
  · cases h
  · cases h
  · split at h
    · cases h
    · next v hg =>
      cases r with
      | obj kv => exact ⟨kv, v, rfl, hg, Option.some.inj h⟩
      | _ => cases hg

theorem nodupB_cons (x : J) (xs : List J) : nodupB (x :: xs) = (!xs.contains x && nodupB xs) := rfl

theorem nodupB_iff (l : List J) : nodupB l = true ↔ l.Nodup := by
  induction l with
  | nil => exact ⟨fun _ => .nil, fun _ => rfl⟩
  | cons x xs ih => simp [nodupB_cons, ih]

theorem checkRecords_true {l seen : List J} (h : checkRecords l seen = some true) :
    l.all recordHasFields = true ∧ l.all idNonEmpty = true ∧ l.all mdObjOrNull = true ∧
    nodupB (l.filterMap (fun r => getItem r "id")) = true ∧
    (∀ x ∈ l.filterMap (fun r => getItem r "id"), x ∉ seen) := by
  induction l generalizing seen with
  | nil => exact ⟨rfl, rfl, rfl, rfl, fun _ hx => nomatch hx⟩
  | cons r rs ih =>
    unfold checkRecords at h
    split at h
    · cases h
    · cases h
    · next h1 =>
      split at h
      · cases h
      · cases h
      · next h2 =>
        obtain ⟨kv, idv, rfl, hid, htr⟩ := checkField_true h1
        obtain ⟨_, md, hkv, hmd, hmdok⟩ := checkField_true h2
        cases hkv
        simp only [getItem_obj, hid] at h
        split at h
        · cases h
        · next hs =>
          obtain ⟨i1, i2, i3, i4, i5⟩ := ih h
          simp only [List.all_cons, List.filterMap_cons, recordHasFields, idNonEmpty, mdObjOrNull, getItem_obj,
            hid, hmd, htr, hmdok, nodupB_cons, i1, i2, i3, i4, Option.isSome_some, Bool.and_self, true_and,
            Bool.and_true, Bool.not_eq_true', List.mem_cons, forall_eq_or_imp]
          refine ⟨?_, fun hm => hs (List.contains_iff_mem.2 hm), fun x hx hm => i5 x hx (List.mem_cons_of_mem _ hm)⟩
          cases hc : (rs.filterMap (fun r => getItem r "id")).contains idv with
          | false => rfl
          | true => exact absurd List.mem_cons_self (i5 idv (List.contains_iff_mem.1 hc))

theorem validAxis_true {kvs : KVs} {v : J} (h : validAxis kvs v = some true) :
    ∃ l, pyIter v = some l ∧ checkRecords l [] = some true := by
  unfold validAxis at h
  split at h
  · split at h
    · cases h
    · next l hp => exact ⟨l, hp, h⟩
  · cases h

theorem crossCheck_true {kvs : KVs} {k : String} {pos : Nat} {sh ax : J}
    (hs : kvs.lookup "shape" = some sh) (ha : kvs.lookup k = some ax)
    (h : crossCheck kvs k pos = some true) :
    ∃ n d, pyLen ax = some n ∧ pyIndex sh pos = some d ∧ pyEqNat n d = true := by
  unfold crossCheck at h
  simp only [hs, ha] at h
  split at h
  · cases h
  · next n hl =>
    split at h
    · cases h
    · next d hi => exact ⟨n, d, hl, hi, Option.some.inj h⟩

/-! ### matrix type, element type -/

theorem validMatrixType_true {v : J} (h : validMatrixType v = some true) :
    v = .str "sparse" ∨ v = .str "dense" := by
  unfold validMatrixType at h
  split at h
  · simpa only [Option.some.injEq, Bool.or_eq_true, beq_iff_eq] using h
  · cases h

theorem validElemType_true {v : J} (h : validElemType v = some true) :
    ∃ dt, dtypeOf v = some dt := by
  unfold validElemType at h
  split at h
  · simp only [Option.some.injEq, List.any_eq_true, beq_iff_eq] at h
    obtain ⟨e, he, rfl⟩ := h
    exact Option.isSome_iff_exists.1 (List.lookup_isSome_iff.2 ⟨e, he, beq_self_eq_true _⟩)
  · cases h

theorem dtypeOf_int : dtypeOf (.str "int") = some .int := by decide +kernel

theorem dtypeOf_float : dtypeOf (.str "float") = some .float := by decide +kernel

/-! ### data: sparse entries, dense rows -/

/-- `validSparse` hands `coordOk` the bounds `shape - 1` (`sub1`) and the loop refuses `x > r - 1`,
    which is `¬ x < r` -/
theorem coordOk_arr {dt : DType} {r c x y : Int} {v : J} :
    coordOk dt (.int (r - 1)) (.int (c - 1)) (.arr [.int x, .int y, v]) = true ↔
      isInst dt v = true ∧ 0 ≤ x ∧ x < r ∧ 0 ≤ y ∧ y < c := by
  simp only [coordOk, pyIter, ltInt_int, Bool.and_eq_true, Bool.not_eq_true', Bool.or_eq_false_iff,
    decide_eq_false_iff_not, Int.not_lt, Int.le_sub_one_iff, and_assoc]

theorem coordOk_true {dt : DType} {r c : Int} {e : J}
    (h : coordOk dt (.int (r - 1)) (.int (c - 1)) e = true) :
    ∃ x y v, e = .arr [.int x, .int y, v] ∧ isInst dt v = true ∧ 0 ≤ x ∧ x < r ∧ 0 ≤ y ∧ y < c := by
  have h' := h
  unfold coordOk at h'
  split at h'
  · next x y v hp =>
    split at h'
    · next xi yi =>
      cases pyIter_eq_arr hp List.mem_cons_self rfl
      exact ⟨xi, yi, v, rfl, coordOk_arr.1 h⟩
    · cases h'
  · cases h'

theorem validSparse_true {kvs : KVs} {d ev : J} {dt : DType} {r c : Int}
    (hev : kvs.lookup "matrix_element_type" = some ev) (hdt : dtypeOf ev = some dt)
    (hsh : kvs.lookup "shape" = some (.arr [.int r, .int c]))
    (h : validSparse kvs d = some true) :
    ∃ l, pyIter d = some l ∧ l.all (coordOk dt (.int (r - 1)) (.int (c - 1))) = true := by
  unfold validSparse at h
  simp only [hev, Option.bind_some, hdt, hsh, unpack2_pair, sub1] at h
  split at h
  · cases h
  · next l hp => exact ⟨l, hp, Option.some.inj h⟩

theorem denseRowOk_true {dt : DType} {c : Int} {row : J} (h : denseRowOk dt (.int c) row = some true) :
    ∃ els, pyIter row = some els ∧ (els.length : Int) = c ∧ els.all (isInst dt) = true ∧ els ≠ [] := by
  unfold denseRowOk at h
  split at h
  · cases h
  · next els hp =>
    split at h
    · next hlen =>
      split at h
      · cases h
      · next hne => exact ⟨els, hp, pyEqNat_int hlen, Option.some.inj h, fun e => hne (e ▸ rfl)⟩
    · cases h

theorem denseRows_true {dt : DType} {c : Int} {l : List J} (h : denseRows dt (.int c) l = some true) :
    ∀ row ∈ l, ∃ els, pyIter row = some els ∧ (els.length : Int) = c ∧ els.all (isInst dt) = true ∧ els ≠ [] := by
  induction l with
  | nil => exact fun _ hr => nomatch hr
  | cons x xs ih =>
    unfold denseRows at h
    split at h
    · cases h
    · cases h
    · next hr => exact List.forall_mem_cons.2 ⟨denseRowOk_true hr, ih h⟩

theorem validDense_true {kvs : KVs} {d ev : J} {dt : DType} {r c : Int}
    (hev : kvs.lookup "matrix_element_type" = some ev) (hdt : dtypeOf ev = some dt)
    (hsh : kvs.lookup "shape" = some (.arr [.int r, .int c]))
    (h : validDense kvs d = some true) :
    ∃ l, pyIter d = some l ∧ denseRows dt (.int c) l = some true ∧ (l.length : Int) = r := by
  unfold validDense at h
  simp only [hev, Option.bind_some, hdt, hsh, unpack2_pair] at h
  split at h
  · cases h
  · next l hp =>
    split at h
    · cases h
    · cases h
    · next hd => exact ⟨l, hp, hd, pyEqNat_int (Option.some.inj h)⟩

theorem validData_sparse {kvs : KVs} (d : J) (hm : kvs.lookup "matrix_type" = some (.str "sparse")) :
    validData kvs d = validSparse kvs d := by
  have hs : lowerIs "sparse" "sparse" = true := by decide +kernel
  simp only [validData, hm, hs, if_true]

theorem validData_dense {kvs : KVs} (d : J) (hm : kvs.lookup "matrix_type" = some (.str "dense")) :
    validData kvs d = validDense kvs d := by
  have h1 : lowerIs "dense" "sparse" = false := by decide +kernel
  have h2 : lowerIs "dense" "dense" = true := by decide +kernel
  simp only [validData, hm, h1, h2, if_true, Bool.false_eq_true, if_false]

/-! ### all checks together -/

/-- what a `valid` verdict of the JSON validator establishes about the document, as far as the
    theorems use it -/
structure ValidFacts (kvs : KVs) where
  rv : J
  cv : J
  lr : List J
  lc : List J
  r : Int
  c : Int
  dv : J
  ev : J
  dt : DType
  hrows : kvs.lookup "rows" = some rv
  hcols : kvs.lookup "columns" = some cv
  hir : pyIter rv = some lr
  hic : pyIter cv = some lc
  hrr : checkRecords lr [] = some true
  hrc : checkRecords lc [] = some true
  hshape : kvs.lookup "shape" = some (.arr [.int r, .int c])
  hdata : kvs.lookup "data" = some dv
  hvd : validData kvs dv = some true
  hmt : kvs.lookup "matrix_type" = some (.str "sparse") ∨ kvs.lookup "matrix_type" = some (.str "dense")
  het : kvs.lookup "matrix_element_type" = some ev
  hdt : dtypeOf ev = some dt
  hnr : (lr.length : Int) = r
  hnc : (lc.length : Int) = c
  hkeys : ∀ k ∈ requiredKeys, (kvs.lookup k).isSome = true
  hty : (kvs.lookup "type").isSome = true
  hgb : (kvs.lookup "generated_by").isSome = true
  hda : (kvs.lookup "date").isSome = true

theorem validFacts {d : String → Bool} {kvs : KVs}
    (hc : ∀ c ∈ checksOf d kvs, c = some true) : Nonempty (ValidFacts kvs) := by
  simp only [checksOf, List.forall_mem_cons, List.not_mem_nil, false_imp_iff, implies_true, and_true] at hc
  obtain ⟨c1, c2, c3, c4, c5, c6, c7, c8, c9, c10, c11, c12, c13, c14⟩ := hc
  obtain ⟨v1, k1, _⟩ := runKey_true c1
  obtain ⟨v2, k2, _⟩ := runKey_true c2
  obtain ⟨v3, k3, _⟩ := runKey_true c3
  obtain ⟨rv, hrows, h4⟩ := runKey_true c4
  obtain ⟨cv, hcols, h5⟩ := runKey_true c5
  obtain ⟨sv, hshape, h6⟩ := runKey_true c6
  obtain ⟨dv, hdata, hvd⟩ := runKey_true c7
  obtain ⟨mv, k8, h8⟩ := runKey_true c8
  obtain ⟨ev, het, h9⟩ := runKey_true c9
  obtain ⟨v10, k10, _⟩ := runKey_true c10
  obtain ⟨v11, k11, _⟩ := runKey_true c11
  obtain ⟨v12, k12, _⟩ := runKey_true c12
  obtain ⟨lr, hir, hrr⟩ := validAxis_true h4
  obtain ⟨lc, hic, hrc⟩ := validAxis_true h5
  obtain ⟨r, c, rfl⟩ := validShape_true h6
  obtain ⟨dt, hdt⟩ := validElemType_true h9
  obtain ⟨n, d0, hl0, hi0, he0⟩ := crossCheck_true hshape hrows c13
  obtain ⟨m, d1, hl1, hi1, he1⟩ := crossCheck_true hshape hcols c14
  simp only [pyLen, hir, hic, Option.map_some, Option.some.injEq] at hl0 hl1
  cases hi0; cases hi1; subst hl0 hl1
  have hmt := (validMatrixType_true h8).imp (· ▸ k8) (· ▸ k8)
  have hnr := pyEqNat_int he0
  have hnc := pyEqNat_int he1
  have hty : (kvs.lookup "type").isSome = true := by rw [k3]; rfl
  have hgb : (kvs.lookup "generated_by").isSome = true := by rw [k10]; rfl
  have hda : (kvs.lookup "date").isSome = true := by rw [k12]; rfl
  refine ⟨{ rv, cv, lr, lc, r, c, dv, ev, dt, hrows, hcols, hir, hic, hrr, hrc, hshape, hdata, hvd, hmt,
            het, hdt, hnr, hnc, hty, hgb, hda, hkeys := ?_ }⟩
  simp only [requiredKeys, List.forall_mem_cons, List.not_mem_nil, false_imp_iff, implies_true,
    k1, k2, k3, hrows, hcols, hshape, hdata, k8, het, k10, k11, k12, Option.isSome_some, and_self]

theorem ValidFacts.data {kvs : KVs} (F : ValidFacts kvs) :
    (kvs.lookup "matrix_type" = some (.str "sparse") ∧ ∃ l, pyIter F.dv = some l ∧
      ∀ e ∈ l, coordOk F.dt (.int (F.r - 1)) (.int (F.c - 1)) e = true) ∨
    (kvs.lookup "matrix_type" = some (.str "dense") ∧ ∃ l, pyIter F.dv = some l ∧ (l.length : Int) = F.r ∧
      ∀ row ∈ l, ∃ els, pyIter row = some els ∧ (els.length : Int) = F.c ∧
        els.all (isInst F.dt) = true ∧ els ≠ []) := by
  rcases F.hmt with hmt | hmt
  · obtain ⟨l, hl, hall⟩ := validSparse_true F.het F.hdt F.hshape ((validData_sparse _ hmt).symm.trans F.hvd)
    exact .inl ⟨hmt, l, hl, List.all_eq_true.1 hall⟩
  · obtain ⟨l, hl, hrows, hlen⟩ := validDense_true F.het F.hdt F.hshape ((validData_dense _ hmt).symm.trans F.hvd)
    exact .inr ⟨hmt, l, hl, hlen, denseRows_true hrows⟩

/-! ### the writer's document -/

theorem WTable.wfb_true {d : String → Bool} {t : WTable} (h : t.wfb d = true) :
    1 ≤ t.obs.length ∧ 1 ≤ t.samp.length ∧ t.grid.length = t.obs.length ∧
    t.grid.all (fun r => r.length == t.samp.length) = true ∧
    t.omd.length = t.obs.length ∧ t.smd.length = t.samp.length ∧
    t.omd.all mdOk = true ∧ t.smd.all mdOk = true ∧
    t.obs.all (fun s => s.toList != []) = true ∧ t.samp.all (fun s => s.toList != []) = true ∧
    strNodupB t.obs = true ∧ strNodupB t.samp = true ∧
    vocabType t.ttype = true ∧ (t.generatedBy.toList != []) = true ∧ d t.date = true := by
  simp only [WTable.wfb, Bool.and_eq_true, decide_eq_true_eq, beq_iff_eq, and_assoc] at h
  exact h

theorem strNodupB_cons (x : String) (xs : List String) :
    strNodupB (x :: xs) = (!xs.contains x && strNodupB xs) := rfl

theorem checkField_recOf_id (ok : J → Bool) (id : String) (md : J) :
    checkField (recOf id md) "id" ok = some (ok (.str id)) := by
  simp [checkField, recOf, pyIn, getItem]

theorem checkField_recOf_md (ok : J → Bool) (id : String) (md : J) :
    checkField (recOf id md) "metadata" ok = some (ok md) := by
  simp [checkField, recOf, pyIn, getItem, List.lookup]

theorem getItem_recOf_id (id : String) (md : J) : getItem (recOf id md) "id" = some (.str id) := by
  simp [recOf, getItem]

theorem checkRecords_written {ids : List String} {mds seen : List J}
    (h1 : ids.all (fun s => s.toList != []) = true) (h2 : mds.all mdOk = true) (h3 : strNodupB ids = true)
    (h4 : ∀ s ∈ ids, J.str s ∉ seen) : checkRecords (List.zipWith recOf ids mds) seen = some true := by
  induction ids generalizing mds seen with
  | nil => rfl
  | cons id ids ih =>
    cases mds with
    | nil => rfl
    | cons md mds =>
      simp only [List.all_cons, Bool.and_eq_true] at h1 h2
      simp only [strNodupB_cons, Bool.and_eq_true, Bool.not_eq_true'] at h3
      have hns : seen.contains (J.str id) = false :=
        Bool.eq_false_iff.2 fun hc => h4 id List.mem_cons_self (List.contains_iff_mem.1 hc)
      simp only [List.zipWith_cons_cons, checkRecords, checkField_recOf_id, checkField_recOf_md,
        getItem_recOf_id, J.truthy, h1.1, h2.1, hns, Bool.false_eq_true, if_false]
      refine ih h1.2 h2.2 h3.2 fun s hs hm => ?_
      rcases List.mem_cons.1 hm with e | hm
      · cases e
        rw [List.contains_iff_mem.2 hs] at h3
        cases h3.1
      · exact h4 s (List.mem_cons_of_mem _ hs) hm

theorem rowCoords_mem {i j0 : Nat} {vs : List Rat} {e : J} (h : e ∈ rowCoords i j0 vs) :
    ∃ (j : Nat) (v : Rat), e = .arr [.int i, .int j, .flt v] ∧ j0 ≤ j ∧ j < j0 + vs.length := by
  induction vs generalizing j0 with
  | nil => cases h
  | cons v vs ih =>
    rw [rowCoords, List.mem_append] at h
    rcases h with h | h
    · by_cases hv : v = 0
      · rw [if_pos hv] at h; cases h
      · rw [if_neg hv] at h
        exact ⟨j0, v, List.mem_singleton.1 h, Nat.le_refl _, Nat.lt_add_of_pos_right (Nat.succ_pos _)⟩
    · obtain ⟨j, v', he, h1, h2⟩ := ih h
      exact ⟨j, v', he, Nat.le_of_succ_le h1, by rwa [List.length_cons, Nat.add_comm _ 1, ← Nat.add_assoc]⟩

theorem gridCoords_mem {m i0 : Nat} {g : List (List Rat)} {e : J} (hm : ∀ r ∈ g, r.length = m)
    (h : e ∈ gridCoords i0 g) :
    ∃ (i j : Nat) (v : Rat), e = .arr [.int i, .int j, .flt v] ∧ i0 ≤ i ∧ i < i0 + g.length ∧ j < m := by
  induction g generalizing i0 with
  | nil => cases h
  | cons r rs ih =>
    rw [gridCoords, List.mem_append] at h
    rcases h with h | h
    · obtain ⟨j, v, he, _, h2⟩ := rowCoords_mem h
      rw [hm r List.mem_cons_self, Nat.zero_add] at h2
      exact ⟨i0, j, v, he, Nat.le_refl _, Nat.lt_add_of_pos_right (Nat.succ_pos _), h2⟩
    · obtain ⟨i, j, v, he, h1, h2, h3⟩ := ih (fun r hr => hm r (List.mem_cons_of_mem _ hr)) h
      exact ⟨i, j, v, he, Nat.le_of_succ_le h1, by rwa [List.length_cons, Nat.add_comm _ 1, ← Nat.add_assoc], h3⟩

/-! ### the loader -/

theorem mapOpt_filterMap {α β : Type} {f : α → Option β} {l : List α} (h : ∀ x ∈ l, (f x).isSome = true) :
    mapOpt f l = some (l.filterMap f) ∧ (l.filterMap f).length = l.length := by
  induction l with
  | nil => exact ⟨rfl, rfl⟩
  | cons x xs ih =>
    obtain ⟨y, hf⟩ := Option.isSome_iff_exists.1 (h x List.mem_cons_self)
    obtain ⟨ih, il⟩ := ih fun y hy => h y (List.mem_cons_of_mem _ hy)
    simp only [mapOpt, hf, ih, List.filterMap_cons, List.length_cons, il, and_self]

theorem mapOpt_all {α β : Type} {f : α → Option β} {P : β → Prop} {l : List α}
    (h : ∀ x ∈ l, ∃ y, f x = some y ∧ P y) :
    ∃ ys, mapOpt f l = some ys ∧ ys.length = l.length ∧ ∀ y ∈ ys, P y := by
  induction l with
  | nil => exact ⟨[], rfl, rfl, fun _ hy => nomatch hy⟩
  | cons x xs ih =>
    obtain ⟨y, hy, hp⟩ := h x List.mem_cons_self
    obtain ⟨ys, hys, hl, hall⟩ := ih fun z hz => h z (List.mem_cons_of_mem _ hz)
    exact ⟨y :: ys, by simp only [mapOpt, hy, hys], by rw [List.length_cons, hl, List.length_cons],
      List.forall_mem_cons.2 ⟨hp, hall⟩⟩

theorem isInst_numeric {dt : DType} {v : J} (hd : dt = .int ∨ dt = .float) (h : isInst dt v = true) :
    ∃ q, numVal v = some q ∧ isStr v = false := by
  cases v with
  | int i => exact ⟨_, rfl, rfl⟩
  | bool b => exact ⟨_, rfl, rfl⟩
  | flt r => exact ⟨_, rfl, rfl⟩
  | _ => rcases hd with rfl | rfl <;> cases h

theorem recordHasFields_some {r : J} (h : recordHasFields r = true) :
    (getItem r "id").isSome = true ∧ (getItem r "metadata").isSome = true := by
  cases r with
  | obj kv => exact Bool.and_eq_true_iff.1 h
  | _ => cases h

theorem length_gridOfEntries (n m : Nat) (es : List (Int × Int × Rat)) :
    (gridOfEntries n m es).length = n ∧ ∀ r ∈ gridOfEntries n m es, r.length = m := by
  constructor
  · simp [gridOfEntries]
  · intro r hr
    simp only [gridOfEntries, List.mem_map, List.mem_range] at hr
    obtain ⟨i, _, rfl⟩ := hr
    simp

end Biom.C15
