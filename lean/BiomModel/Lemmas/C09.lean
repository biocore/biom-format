/-
  C09 — lemmas behind the property theorems.  `Good ms mo ts r` says by ID that `r` is a correct merge of
  the operands `ts`: the general table and the fast table are `Good` for their operands, one more pairwise
  step keeps it (`good_combine`, `fold_spec`), and the clauses of `verdict` are read off it.  Metadata is
  followed along the fold separately (`MdRel`), with the model and the specification both written as `mdAt`.
  Values live in an arbitrary `AddCommMonoid`.
-/
import Mathlib.Algebra.BigOperators.Group.Finset.Basic
import BiomModel.Lemmas.Layer
import BiomModel.C09

set_option linter.unusedSectionVars false

namespace Biom.C09

variable {α : Type}

/-! ### ID orders -/

theorem unionAux_cons_mem {seen : List Id} {y : Id} (ys : List Id) (h : y ∈ seen) :
    unionAux seen (y :: ys) = unionAux seen ys := if_pos h

theorem unionAux_cons_not_mem {seen : List Id} {y : Id} (ys : List Id) (h : y ∉ seen) :
    unionAux seen (y :: ys) = y :: unionAux (y :: seen) ys := if_neg h

theorem mem_unionAux (seen l : List Id) (x : Id) : x ∈ unionAux seen l ↔ x ∈ l ∧ x ∉ seen := by
  induction l generalizing seen with
  | nil => exact ⟨fun h => (List.not_mem_nil h).elim, fun h => (List.not_mem_nil h.1).elim⟩
  | cons y ys ih =>
    by_cases hy : y ∈ seen
    · rw [unionAux_cons_mem _ hy, ih, List.mem_cons]
      exact ⟨fun h => ⟨.inr h.1, h.2⟩, fun h => ⟨h.1.resolve_left fun e => h.2 (e ▸ hy), h.2⟩⟩
    · rw [unionAux_cons_not_mem _ hy, List.mem_cons, ih, List.mem_cons, List.mem_cons, not_or]
      constructor
      · rintro (h | ⟨h1, h2⟩)
        · exact ⟨.inl h, h ▸ hy⟩
        · exact ⟨.inr h1, h2.2⟩
      · rintro ⟨h1 | h1, h2⟩
        · exact .inl h1
        · exact (em (x = y)).imp_right fun hxy => ⟨h1, hxy, h2⟩

theorem nodup_unionAux (seen l : List Id) : (unionAux seen l).Nodup := by
  induction l generalizing seen with
  | nil => exact List.nodup_nil
  | cons y ys ih =>
    by_cases hy : y ∈ seen
    · rw [unionAux_cons_mem _ hy]; exact ih seen
    · rw [unionAux_cons_not_mem _ hy]
      exact List.nodup_cons.mpr ⟨fun h => ((mem_unionAux _ _ _).mp h).2 List.mem_cons_self, ih _⟩

theorem mem_unionOrder (a b : List Id) (x : Id) : x ∈ unionOrder a b ↔ x ∈ a ∨ x ∈ b := by
  rw [unionOrder, mem_unionAux, List.mem_append]
  exact and_iff_left List.not_mem_nil

theorem nodup_unionOrder (a b : List Id) : (unionOrder a b).Nodup := nodup_unionAux _ _

theorem mem_interOrder (a b : List Id) (x : Id) : x ∈ interOrder a b ↔ x ∈ a ∧ x ∈ b := by
  rw [interOrder, List.mem_filter, decide_eq_true_eq]

theorem nodup_interOrder (a b : List Id) (h : a.Nodup) : (interOrder a b).Nodup :=
  h.filter _

theorem nodup_newOrder (m : Mode) (a b : List Id) (h : a.Nodup) : (newOrder m a b).Nodup := by
  cases m
  · exact nodup_unionOrder a b
  · exact nodup_interOrder a b h

theorem mem_newOrder (m : Mode) (a b : List Id) (x : Id) :
    x ∈ newOrder m a b ↔ (match m with | .union => x ∈ a ∨ x ∈ b | .inter => x ∈ a ∧ x ∈ b) := by
  cases m
  · exact mem_unionOrder a b x
  · exact mem_interOrder a b x

theorem unionAux_nodup_eq_filter (seen l : List Id) (hl : l.Nodup) :
    unionAux seen l = l.filter (fun x => decide (x ∉ seen)) := by
  induction l generalizing seen with
  | nil => rfl
  | cons y ys ih =>
    have hn := List.nodup_cons.mp hl
    by_cases hy : y ∈ seen
    · rw [unionAux_cons_mem _ hy, List.filter_cons_of_neg (by simpa using hy)]
      exact ih seen hn.2
    · rw [unionAux_cons_not_mem _ hy, List.filter_cons_of_pos (by simpa using hy), ih (y :: seen) hn.2]
      congr 1
      apply List.filter_congr
      intro x hx
      have : x ≠ y := fun h => hn.1 (h ▸ hx)
      simp only [List.mem_cons, this, false_or]

theorem unionAux_append_of_nodup (seen a b : List Id) (ha : a.Nodup) (hd : ∀ x ∈ a, x ∉ seen) :
    unionAux seen (a ++ b) = a ++ unionAux (a.reverse ++ seen) b := by
  induction a generalizing seen with
  | nil => rfl
  | cons y ys ih =>
    have hn := List.nodup_cons.mp ha
    obtain ⟨hy, hd⟩ := List.forall_mem_cons.mp hd
    rw [List.cons_append, unionAux_cons_not_mem _ hy, ih (y :: seen) hn.2, List.reverse_cons,
      List.append_assoc]
    · rfl
    · intro x hx hm
      rcases List.mem_cons.mp hm with rfl | hm
      · exact hn.1 hx
      · exact hd x hx hm

/-- "union order = the receiver's IDs, then the other's new ones" -/
theorem unionOrder_eq (a b : List Id) (ha : a.Nodup) (hb : b.Nodup) :
    unionOrder a b = a ++ b.filter (fun x => decide (x ∉ a)) := by
  rw [unionOrder, unionAux_append_of_nodup [] a b ha (fun _ _ => List.not_mem_nil),
    unionAux_nodup_eq_filter _ b hb]
  simp only [List.append_nil, List.mem_reverse]

/-! ### positional lookups -/

theorem map_lookupBy_self_comp {β γ : Type} (F : Option β → γ) (ids : List Id) (xs : List β) (hn : ids.Nodup)
    (hl : ids.length = xs.length) :
    ids.map (fun s => F (lookupBy ids xs s)) = xs.map (fun x => F (some x)) :=
  (List.map_map (g := F) (f := lookupBy ids xs) (l := ids)).symm.trans
    ((congrArg (List.map F) (map_lookupBy_self ids xs hn hl)).trans List.map_map)

theorem lookupBy_range_map {β : Type} (ids : List Id) (F : Nat → β) (id : Id) (h : id ∈ ids) :
    lookupBy ids ((List.range ids.length).map F) id = some (F (ids.idxOf id)) := by
  induction ids generalizing F with
  | nil => cases h
  | cons i is ih =>
    rw [List.length_cons, List.range_succ_eq_map, List.map_cons, lookupBy_cons, List.map_map]
    by_cases e : i = id
    · rw [if_pos e, e, List.idxOf_cons_self]
    · rw [if_neg e, ih (F ∘ Nat.succ) ((List.mem_cons.mp h).resolve_left fun e' => e e'.symm),
        List.idxOf_cons_ne _ e]
      rfl

/-! ### values and cells by ID -/

section cells
variable [AddCommMonoid α]

theorem valOr0_cons (s' : Id) (ss : List Id) (v : α) (vs : List α) (s : Id) :
    valOr0 (s' :: ss) (v :: vs) s = if s' = s then v else valOr0 ss vs s := by
  unfold valOr0
  rw [lookupBy_cons]
  split <;> rfl

theorem valOr0_of_not_mem (ss : List Id) (vs : List α) (s : Id) (h : s ∉ ss) : valOr0 ss vs s = 0 := by
  rw [valOr0, lookupBy_none_of_not_mem _ _ _ h]; rfl

theorem cellOr0_of_row {t : Table α} {o : Id} {v : List α} (h : t.row? o = some v) (s : Id) :
    cellOr0 t o s = valOr0 t.samp v s := by
  rw [cellOr0, Table.cell?, h]; rfl

theorem cellOr0_of_no_row {t : Table α} {o : Id} (h : t.row? o = none) (s : Id) : cellOr0 t o s = 0 := by
  rw [cellOr0, Table.cell?, h]; rfl

theorem cellOr0_of_not_obs (t : Table α) (o s : Id) (h : o ∉ t.obs) : cellOr0 t o s = 0 :=
  cellOr0_of_no_row (lookupBy_none_of_not_mem _ _ _ h) s

theorem cellOr0_of_not_samp (t : Table α) (o s : Id) (h : s ∉ t.samp) : cellOr0 t o s = 0 := by
  cases hr : t.row? o with
  | none => exact cellOr0_of_no_row hr s
  | some v => rw [cellOr0_of_row hr, valOr0_of_not_mem _ _ _ h]

theorem cell_some (t : Table α) (h : t.WF) (o s : Id) (ho : o ∈ t.obs) (hs : s ∈ t.samp) :
    t.cell? o s = some (cellOr0 t o s) := by
  obtain ⟨x, hx⟩ := Option.isSome_iff_exists.mp (cell_isSome h ho hs)
  rw [cellOr0, hx]; rfl

end cells

/-! ### the general path -/

def fOf (fs fo : MdF) : Axis → MdF
  | .obs => fo
  | .samp => fs

def mOf (ms mo : Mode) : Axis → Mode
  | .obs => mo
  | .samp => ms

section general
variable [AddCommMonoid α]

/-- the three branches of the code (and the model's fourth, for an ID of neither operand) all
compute the sum by ID -/
theorem mergeRow_spec (a b : Table α) (ns : List Id) (o : Id) :
    mergeRow a b ns o = ns.map (fun s => cellOr0 a o s + cellOr0 b o s) := by
  unfold mergeRow
  split <;> rename_i ha hb <;> apply List.map_congr_left <;> intro s _
  · rw [cellOr0_of_row ha, cellOr0_of_no_row hb, add_zero]
  · rw [cellOr0_of_no_row ha, cellOr0_of_row hb, zero_add]
  · rw [cellOr0_of_row ha, cellOr0_of_row hb]
  · rw [cellOr0_of_no_row ha, cellOr0_of_no_row hb, add_zero]

/-- the table the general path builds once both new orders are non-empty -/
def generalTable (fs fo : MdF) (ms mo : Mode) (a b : Table α) : Table α :=
  let ns := newOrder ms a.samp b.samp
  let no := newOrder mo a.obs b.obs
  { obs := no, samp := ns, rows := no.map (mergeRow a b ns),
    omd := castMd (mdList (applyF fo) a b .obs no),
    smd := castMd (mdList (applyF fs) a b .samp ns), ttype := none }

theorem generalTable_ids (fs fo : MdF) (ms mo : Mode) (a b : Table α) (ax : Axis) :
    (generalTable fs fo ms mo a b).ids ax = newOrder (mOf ms mo ax) (a.ids ax) (b.ids ax) := by
  cases ax <;> rfl

theorem generalTable_md (fs fo : MdF) (ms mo : Mode) (a b : Table α) (ax : Axis) :
    (generalTable fs fo ms mo a b).md ax =
      castMd (((generalTable fs fo ms mo a b).ids ax).map
        (fun id => applyF (fOf fs fo ax) (a.mdOf? ax id) (b.mdOf? ax id))) := by
  cases ax <;> rfl

theorem generalMerge_cases (fs fo : MdF) (ms mo : Mode) (a b : Table α) :
    (generalMerge fs fo ms mo a b = .error .tableException ∧
      ∃ ax, newOrder (mOf ms mo ax) (a.ids ax) (b.ids ax) = []) ∨
    (generalMerge fs fo ms mo a b = .ok (generalTable fs fo ms mo a b) ∧
      newOrder ms a.samp b.samp ≠ [] ∧ newOrder mo a.obs b.obs ≠ []) := by
  unfold generalMerge
  by_cases h1 : newOrder ms a.samp b.samp = []
  · exact .inl ⟨if_pos (List.isEmpty_iff.mpr h1), .samp, h1⟩
  · by_cases h2 : newOrder mo a.obs b.obs = []
    · exact .inl ⟨(if_neg (mt List.isEmpty_iff.mp h1)).trans (if_pos (List.isEmpty_iff.mpr h2)), .obs, h2⟩
    · exact .inr ⟨(if_neg (mt List.isEmpty_iff.mp h1)).trans (if_neg (mt List.isEmpty_iff.mp h2)), h1, h2⟩

theorem general_cell (fs fo : MdF) (ms mo : Mode) (a b : Table α) (o s : Id)
    (ho : o ∈ (generalTable fs fo ms mo a b).obs) (hs : s ∈ (generalTable fs fo ms mo a b).samp) :
    (generalTable fs fo ms mo a b).cell? o s = some (cellOr0 a o s + cellOr0 b o s) := by
  unfold generalTable at ho hs ⊢
  simp only [Table.cell?, Table.row?, lookupBy_map_self_ite, if_pos ho, Option.bind_some, mergeRow_spec, if_pos hs]

theorem castMd_length (l : List (Option Md)) (m : List Md) (h : castMd l = some m) : m.length = l.length := by
  unfold castMd at h
  split at h
  · cases h
  · cases h; exact List.length_map _

theorem castMd_eq_none {l : List (Option Md)} (h : ∀ m ∈ l, canon m = []) : castMd l = none :=
  if_pos (List.all_eq_true.mpr fun m hm => List.isEmpty_iff.mpr (h m hm))

/-- per-ID metadata as the constructor leaves it: nothing at all when every entry is `None` or empty,
otherwise the canonical entry of each listed ID -/
def mdAt (ids : List Id) (g : Id → Option Md) (id : Id) : Option Md :=
  if ids.all (fun i => (canon (g i)).isEmpty) then none
  else if id ∈ ids then some (canon (g id)) else none

theorem mdOf_castMd (ids : List Id) (g : Id → Option Md) (id : Id) :
    (castMd (ids.map g)).bind (fun m => lookupBy ids m id) = mdAt ids g id := by
  unfold castMd mdAt
  simp only [List.all_map, Function.comp_def, List.map_map, lookupBy_map_self_ite, Option.bind_some,
    Option.bind_none, apply_ite (Option.bind · (fun m => lookupBy ids m id))]

theorem canon_mdAt {ids : List Id} (g : Id → Option Md) {id : Id} (hid : id ∈ ids) :
    canon (mdAt ids g id) = canon (g id) := by
  unfold mdAt
  split
  · next hall => exact (List.isEmpty_iff.mp (List.all_eq_true.mp hall id hid)).symm
  · rfl

theorem mdAt_of_empty {ids : List Id} {g : Id → Option Md} (h : ∀ i ∈ ids, canon (g i) = []) (id : Id) :
    mdAt ids g id = none :=
  if_pos (List.all_eq_true.mpr fun i hi => List.isEmpty_iff.mpr (h i hi))

theorem mdAt_congr {ids ids' : List Id} {g g' : Id → Option Md} (hids : ∀ x, x ∈ ids ↔ x ∈ ids')
    (hg : ∀ x, g x = g' x) (id : Id) : mdAt ids g id = mdAt ids' g' id := by
  have hall : ids.all (fun i => (canon (g i)).isEmpty) = ids'.all (fun i => (canon (g' i)).isEmpty) := by
    rw [Bool.eq_iff_iff, List.all_eq_true, List.all_eq_true]
    exact ⟨fun hp x hx => hg x ▸ hp x ((hids x).mpr hx), fun hp x hx => hg x ▸ hp x ((hids x).mp hx)⟩
  unfold mdAt
  rw [hall, hg id]
  exact if_congr Iff.rfl rfl (if_congr (hids id) rfl rfl)

theorem general_md (fs fo : MdF) (ms mo : Mode) (a b : Table α) (ax : Axis) (id : Id) :
    (generalTable fs fo ms mo a b).mdOf? ax id =
      mdAt ((generalTable fs fo ms mo a b).ids ax)
        (fun i => applyF (fOf fs fo ax) (a.mdOf? ax i) (b.mdOf? ax i)) id := by
  rw [Table.mdOf?, generalTable_md]
  exact mdOf_castMd _ _ _

theorem general_wf (fs fo : MdF) (ms mo : Mode) (a b : Table α) :
    (generalTable fs fo ms mo a b).WF := by
  refine ⟨List.length_map _, ?_, fun m hm => ?_, fun m hm => ?_⟩
  · intro r hr
    obtain ⟨o, _, rfl⟩ := List.mem_map.mp hr
    rw [mergeRow_spec]; exact List.length_map _
  · exact (castMd_length _ _ hm).trans (List.length_map _)
  · exact (castMd_length _ _ hm).trans (List.length_map _)

end general

/-! ### the fast path -/

section fast
variable [AddCommMonoid α] [DecidableEq α]

theorem insertId_perm (x : Id) (l : List Id) : (insertId x l).Perm (x :: l) := by
  induction l with
  | nil => exact List.Perm.refl _
  | cons y ys ih =>
    unfold insertId
    split
    · exact List.Perm.refl _
    · exact (List.Perm.cons y ih).trans (List.Perm.swap x y ys)

theorem sortIds_perm (l : List Id) : (sortIds l).Perm l := by
  induction l with
  | nil => exact List.Perm.refl _
  | cons x xs ih => exact (insertId_perm x _).trans (List.Perm.cons x ih)

theorem mem_globalIds (ts : List (Table α)) (ax : Axis) (id : Id) :
    id ∈ globalIds ts ax ↔ ∃ t ∈ ts, id ∈ t.ids ax := by
  rw [globalIds, (sortIds_perm _).mem_iff, mem_unionAux, List.mem_flatMap]
  exact and_iff_left List.not_mem_nil

theorem nodup_globalIds (ts : List (Table α)) (ax : Axis) : (globalIds ts ax).Nodup :=
  (sortIds_perm _).nodup_iff.mpr (nodup_unionAux _ _)

theorem cellSum_nil (i j : Nat) : cellSum ([] : List (Nat × Nat × α)) i j = 0 := rfl

theorem cellSum_cons (t : Nat × Nat × α) (l : List (Nat × Nat × α)) (i j : Nat) :
    cellSum (t :: l) i j = (if t.1 = i ∧ t.2.1 = j then t.2.2 else 0) + cellSum l i j := by
  unfold cellSum
  rw [List.filterMap_cons]
  by_cases h : t.1 = i ∧ t.2.1 = j
  · rw [if_pos h, if_pos h]; rfl
  · rw [if_neg h, if_neg h, zero_add]

theorem cellSum_append (l1 l2 : List (Nat × Nat × α)) (i j : Nat) :
    cellSum (l1 ++ l2) i j = cellSum l1 i j + cellSum l2 i j := by
  unfold cellSum
  rw [List.filterMap_append]
  exact List.sum_append

theorem cellSum_flatMap {β : Type} (ts : List β) (F : β → List (Nat × Nat × α)) (i j : Nat) :
    cellSum (ts.flatMap F) i j = (ts.map (fun t => cellSum (F t) i j)).sum := by
  induction ts with
  | nil => rfl
  | cons t ts ih => rw [List.flatMap_cons, cellSum_append, ih, List.map_cons, List.sum_cons]

/-- a stored zero contributes nothing, so dropping it does not show in the sums -/
theorem cellSum_rowTriples_cons (gs : List Id) (i' i j : Nat) (s' : Id) (ss : List Id) (v : α) (vs : List α) :
    cellSum (rowTriples gs i' (s' :: ss) (v :: vs)) i j =
      (if i' = i ∧ gs.idxOf s' = j then v else 0) + cellSum (rowTriples gs i' ss vs) i j := by
  rw [rowTriples]
  split
  · next hv => rw [hv, ite_self, zero_add]
  · exact cellSum_cons _ _ _ _

theorem cellSum_rowTriples (gs : List Id) (i i' : Nat) (ss : List Id) (vs : List α) (s : Id)
    (hss : ∀ x ∈ ss, x ∈ gs) (hn : ss.Nodup) :
    cellSum (rowTriples gs i' ss vs) i (gs.idxOf s) = if i' = i then valOr0 ss vs s else 0 := by
  induction ss generalizing vs with
  | nil => exact (ite_self _).symm
  | cons s' ss ih =>
    cases vs with
    | nil => exact (ite_self _).symm
    | cons v vs =>
      have hn' := List.nodup_cons.mp hn
      obtain ⟨hs'gs, hss⟩ := List.forall_mem_cons.mp hss
      rw [cellSum_rowTriples_cons, ih vs hss hn'.2, valOr0_cons]
      by_cases hs' : s' = s
      · subst hs'
        rw [if_pos (rfl : s' = s'), valOr0_of_not_mem _ _ _ hn'.1, ite_self, add_zero]
        exact if_congr (and_iff_left rfl) rfl rfl
      · rw [if_neg hs', if_neg (fun h => hs' ((List.idxOf_inj hs'gs).mp h.2)), zero_add]

theorem cellSum_gridTriples (go gs samp : List Id) (os : List Id) (rs : List (List α)) (o s : Id)
    (hos : ∀ x ∈ os, x ∈ go) (hsamp : ∀ x ∈ samp, x ∈ gs) (hn : os.Nodup) (hns : samp.Nodup) :
    cellSum (gridTriples go gs samp os rs) (go.idxOf o) (gs.idxOf s) =
      ((lookupBy os rs o).map (valOr0 samp · s)).getD 0 := by
  induction os generalizing rs with
  | nil => rfl
  | cons o' os ih =>
    cases rs with
    | nil => rfl
    | cons r rs =>
      have hn' := List.nodup_cons.mp hn
      obtain ⟨ho'go, hos⟩ := List.forall_mem_cons.mp hos
      rw [gridTriples, cellSum_append, cellSum_rowTriples gs _ _ samp r s hsamp hns, ih rs hos hn'.2,
        lookupBy_cons]
      by_cases e : o' = o
      · subst e
        rw [if_pos (rfl : List.idxOf o' go = _), if_pos (rfl : o' = o'), lookupBy_none_of_not_mem _ _ _ hn'.1]
        exact add_zero _
      · rw [if_neg (fun h => e ((List.idxOf_inj ho'go).mp h)), if_neg e, zero_add]

theorem cellSum_triples (go gs : List Id) (t : Table α) (o s : Id)
    (hos : ∀ x ∈ t.obs, x ∈ go) (hss : ∀ x ∈ t.samp, x ∈ gs) (hn : t.obs.Nodup) (hns : t.samp.Nodup) :
    cellSum (triples go gs t) (go.idxOf o) (gs.idxOf s) = cellOr0 t o s := by
  refine (cellSum_gridTriples go gs t.samp t.obs t.rows o s hos hss hn hns).trans ?_
  unfold cellOr0 Table.cell? Table.row?
  cases lookupBy t.obs t.rows o <;> rfl

theorem fast_cell (ts : List (Table α)) (hn : ∀ t ∈ ts, t.obs.Nodup ∧ t.samp.Nodup) (o s : Id)
    (ho : o ∈ (fastMerge ts).obs) (hs : s ∈ (fastMerge ts).samp) :
    (fastMerge ts).cell? o s = some ((ts.map (fun t => cellOr0 t o s)).sum) := by
  unfold fastMerge at ho hs ⊢
  simp only [Table.cell?, Table.row?]
  rw [lookupBy_range_map _ _ _ ho, Option.bind_some, lookupBy_range_map _ _ _ hs, cellSum_flatMap]
  congr 2
  apply List.map_congr_left
  intro t ht
  exact cellSum_triples _ _ t o s
    (fun x hx => (mem_globalIds ts .obs x).mpr ⟨t, ht, hx⟩)
    (fun x hx => (mem_globalIds ts .samp x).mpr ⟨t, ht, hx⟩) (hn t ht).1 (hn t ht).2

theorem fast_wf (ts : List (Table α)) : (fastMerge ts).WF := by
  refine ⟨?_, ?_, fun m hm => (nomatch hm), fun m hm => (nomatch hm)⟩
  · exact (List.length_map _).trans List.length_range
  · intro r hr
    obtain ⟨i, _, rfl⟩ := List.mem_map.mp hr
    exact (List.length_map _).trans List.length_range

theorem fastMerge_mdOf (ts : List (Table α)) (ax : Axis) (id : Id) : (fastMerge ts).mdOf? ax id = none := by
  cases ax <;> rfl

theorem fastMerge_ids_mem (ts : List (Table α)) (ax : Axis) (id : Id) :
    id ∈ (fastMerge ts).ids ax ↔ ∃ t ∈ ts, id ∈ t.ids ax := by
  cases ax <;> exact mem_globalIds ts _ id

end fast

/-! ### totals -/

section totals
variable [AddCommMonoid α]

/-- operand well-formedness: rectangular grid, metadata one entry per ID, distinct IDs on both axes -/
def OpWF (t : Table α) : Prop := t.WF ∧ t.obs.Nodup ∧ t.samp.Nodup

theorem opWF_pair {a b : Table α} (ha : OpWF a) (hb : OpWF b) : ∀ t ∈ [a, b], OpWF t := by
  intro t ht
  rcases List.mem_pair.mp ht with rfl | rfl <;> assumption

theorem total_eq (t : Table α) : total t = (t.rows.map List.sum).sum := rfl

theorem row_sum_eq (samp : List Id) (row : List α) (hn : samp.Nodup) (hl : samp.length = row.length) :
    (samp.map (fun s => valOr0 samp row s)).sum = row.sum :=
  congrArg List.sum ((map_lookupBy_self_comp (·.getD 0) samp row hn hl).trans (List.map_id' _))

theorem total_as_sum (t : Table α) (h : OpWF t) :
    total t = (t.obs.map (fun o => (t.samp.map (fun s => cellOr0 t o s)).sum)).sum := by
  obtain ⟨⟨hlen, hrows, _, _⟩, hno, hns⟩ := h
  -- `cellOr0 t o s` reads row `o` first: the sum over a row is a function of `lookupBy t.obs t.rows o`
  rw [total_eq, show t.obs.map (fun o => (t.samp.map (fun s => cellOr0 t o s)).sum) = _ from
    map_lookupBy_self_comp (fun r? => (t.samp.map fun s => ((r?.bind fun r => lookupBy t.samp r s).getD 0)).sum)
      t.obs t.rows hno hlen.symm]
  congr 1
  apply List.map_congr_left
  intro r hr
  exact (row_sum_eq t.samp r hns (hrows r hr).symm).symm

theorem total_finset (t : Table α) (h : OpWF t) (So Ss : Finset Id)
    (ho : ∀ x ∈ t.obs, x ∈ So) (hs : ∀ x ∈ t.samp, x ∈ Ss) :
    total t = ∑ o ∈ So, ∑ s ∈ Ss, cellOr0 t o s := by
  rw [total_as_sum t h, ← List.sum_toFinset _ h.2.1]
  rw [← Finset.sum_subset (s₁ := t.obs.toFinset) (s₂ := So)]
  · apply Finset.sum_congr rfl
    intro o _
    rw [← List.sum_toFinset _ h.2.2]
    apply Finset.sum_subset
    · intro x hx; exact hs x (List.mem_toFinset.mp hx)
    · intro x _ hx
      exact cellOr0_of_not_samp t o x (fun hm => hx (List.mem_toFinset.mpr hm))
  · intro x hx; exact ho x (List.mem_toFinset.mp hx)
  · intro o _ hno
    apply Finset.sum_eq_zero
    intro s _
    exact cellOr0_of_not_obs t o s (fun hm => hno (List.mem_toFinset.mpr hm))

theorem sum_sum_listsum {β : Type} (ts : List β) (f : β → Id → Id → α) (So Ss : Finset Id) :
    ∑ o ∈ So, ∑ s ∈ Ss, (ts.map (fun t => f t o s)).sum =
      (ts.map (fun t => ∑ o ∈ So, ∑ s ∈ Ss, f t o s)).sum := by
  induction ts with
  | nil => simp only [List.map_nil, List.sum_nil, Finset.sum_const_zero]
  | cons t ts ih =>
    simp only [List.map_cons, List.sum_cons, Finset.sum_add_distrib, ih]

end totals

/-! ### the specification of a k-operand merge, by ID -/

section good
variable [AddCommMonoid α] [DecidableEq α]

theorem expMem_union_iff (ax : Axis) (ts : List (Table α)) (id : Id) :
    expMem .union ax ts id = true ↔ ∃ t ∈ ts, id ∈ t.ids ax := by
  simp only [expMem, hasId, List.any_eq_true, decide_eq_true_eq]

theorem expMem_inter_iff (ax : Axis) (ts : List (Table α)) (id : Id) :
    expMem .inter ax ts id = true ↔ ∀ t ∈ ts, id ∈ t.ids ax := by
  simp only [expMem, hasId, List.all_eq_true, decide_eq_true_eq]

theorem expMem_single (m : Mode) (ax : Axis) (a : Table α) (id : Id) :
    expMem m ax [a] id = true ↔ id ∈ a.ids ax := by
  cases m
  · exact (expMem_union_iff ax [a] id).trans ⟨fun ⟨_, ht, h⟩ => List.mem_singleton.mp ht ▸ h,
      fun h => ⟨a, List.mem_singleton_self a, h⟩⟩
  · exact (expMem_inter_iff ax [a] id).trans List.forall_mem_singleton

theorem expMem_pair (m : Mode) (ax : Axis) (a b : Table α) (id : Id) :
    expMem m ax [a, b] id = true ↔ id ∈ newOrder m (a.ids ax) (b.ids ax) := by
  rw [mem_newOrder]
  cases m
  · simp only [expMem_union_iff, List.mem_cons, List.not_mem_nil, or_false, exists_eq_or_imp, exists_eq_left]
  · simp only [expMem_inter_iff, List.mem_cons, List.not_mem_nil, or_false, forall_eq_or_imp, forall_eq]

theorem expMem_append_single (m : Mode) (ax : Axis) (ts : List (Table α)) (acc t : Table α) (id : Id)
    (hacc : id ∈ acc.ids ax ↔ expMem m ax ts id = true) :
    expMem m ax [acc, t] id = expMem m ax (ts ++ [t]) id := by
  have h : hasId acc ax id = expMem m ax ts id := by
    rw [Bool.eq_iff_iff, ← hacc]; exact decide_eq_true_iff
  cases m
  · simp only [expMem, List.any_cons, List.any_nil, List.any_append, h]
  · simp only [expMem, List.all_cons, List.all_nil, List.all_append, h]

/-- `r` is a correct merge of the operands `ts` (IDs per axis, every cell), with distinct IDs -/
structure Good (ms mo : Mode) (ts : List (Table α)) (r : Table α) : Prop where
  wf : OpWF r
  memO : ∀ id, id ∈ r.obs ↔ expMem mo .obs ts id = true
  memS : ∀ id, id ∈ r.samp ↔ expMem ms .samp ts id = true
  cell : ∀ o ∈ r.obs, ∀ s ∈ r.samp, r.cell? o s = some ((ts.map (fun t => cellOr0 t o s)).sum)

theorem Good.mem {ms mo : Mode} {ts : List (Table α)} {r : Table α} (hg : Good ms mo ts r) (ax : Axis)
    (id : Id) : id ∈ r.ids ax ↔ expMem (mOf ms mo ax) ax ts id = true := by
  cases ax
  · exact hg.memO id
  · exact hg.memS id

theorem good_single (ms mo : Mode) (a : Table α) (h : OpWF a) : Good ms mo [a] a where
  wf := h
  memO id := (expMem_single mo .obs a id).symm
  memS id := (expMem_single ms .samp a id).symm
  cell o ho s hs := by rw [cell_some a h.1 o s ho hs, List.map_singleton, List.sum_singleton]

theorem good_general (fs fo : MdF) (ms mo : Mode) (a b : Table α) (ha : OpWF a) :
    Good ms mo [a, b] (generalTable fs fo ms mo a b) where
  wf := ⟨general_wf fs fo ms mo a b, nodup_newOrder mo _ _ ha.2.1, nodup_newOrder ms _ _ ha.2.2⟩
  memO id := (expMem_pair mo .obs a b id).symm
  memS id := (expMem_pair ms .samp a b id).symm
  cell o ho s hs := by
    rw [general_cell fs fo ms mo a b o s ho hs, List.map_cons, List.map_singleton, List.sum_cons,
      List.sum_singleton]

theorem good_fast (ts : List (Table α)) (h : ∀ t ∈ ts, OpWF t) :
    Good .union .union ts (fastMerge ts) where
  wf := ⟨fast_wf ts, nodup_globalIds ts .obs, nodup_globalIds ts .samp⟩
  memO id := (mem_globalIds ts .obs id).trans (expMem_union_iff .obs ts id).symm
  memS id := (mem_globalIds ts .samp id).trans (expMem_union_iff .samp ts id).symm
  cell o ho s hs := fast_cell ts (fun t ht => (h t ht).2) o s ho hs

theorem Good.agree {ms mo : Mode} {ts : List (Table α)} {r r' : Table α} (h : Good ms mo ts r)
    (h' : Good ms mo ts r') :
    (∀ id, id ∈ r.obs ↔ id ∈ r'.obs) ∧ (∀ id, id ∈ r.samp ↔ id ∈ r'.samp) ∧
    (∀ o ∈ r'.obs, ∀ s ∈ r'.samp, r.cell? o s = r'.cell? o s) := by
  have ho : ∀ id, id ∈ r.obs ↔ id ∈ r'.obs := fun id => (h.memO id).trans (h'.memO id).symm
  have hs : ∀ id, id ∈ r.samp ↔ id ∈ r'.samp := fun id => (h.memS id).trans (h'.memS id).symm
  exact ⟨ho, hs, fun o ho' s hs' =>
    (h.cell o ((ho o).mpr ho') s ((hs s).mpr hs')).trans (h'.cell o ho' s hs').symm⟩

theorem sum_zero_of_forall {β : Type} (ts : List β) (f : β → α) (h : ∀ t ∈ ts, f t = 0) :
    (ts.map f).sum = 0 :=
  List.sum_eq_zero fun x hx => by
    obtain ⟨t, ht, rfl⟩ := List.mem_map.mp hx
    exact h t ht

/-- the accumulated table stands for the sum of its operands also where it has no cell: for an ID
expected in a merge in which it takes part, it lacks the ID only on a union axis, and then so do
all its operands -/
theorem good_cellOr0 (ms mo : Mode) (ts l : List (Table α)) (acc : Table α) (hg : Good ms mo ts acc)
    (o s : Id) (ho : expMem mo .obs (acc :: l) o = true) (hs : expMem ms .samp (acc :: l) s = true) :
    cellOr0 acc o s = (ts.map (fun t => cellOr0 t o s)).sum := by
  by_cases h1 : o ∈ acc.obs
  · by_cases h2 : s ∈ acc.samp
    · exact congrArg (·.getD 0) (hg.cell o h1 s h2)
    · refine (cellOr0_of_not_samp acc o s h2).trans
        (sum_zero_of_forall _ _ fun t ht => cellOr0_of_not_samp _ _ _ fun hm => h2 ?_).symm
      cases ms with
      | inter => exact (expMem_inter_iff _ _ _).mp hs acc List.mem_cons_self
      | union => exact (hg.memS s).mpr ((expMem_union_iff _ _ _).mpr ⟨t, ht, hm⟩)
  · refine (cellOr0_of_not_obs acc o s h1).trans
      (sum_zero_of_forall _ _ fun t ht => cellOr0_of_not_obs _ _ _ fun hm => h1 ?_).symm
    cases mo with
    | inter => exact (expMem_inter_iff _ _ _).mp ho acc List.mem_cons_self
    | union => exact (hg.memO o).mpr ((expMem_union_iff _ _ _).mpr ⟨t, ht, hm⟩)

theorem good_combine {ms mo : Mode} {ts : List (Table α)} {acc t r : Table α}
    (hg : Good ms mo ts acc) (hr : Good ms mo [acc, t] r) : Good ms mo (ts ++ [t]) r where
  wf := hr.wf
  memO id := by rw [hr.memO, expMem_append_single mo .obs ts acc t id (hg.memO id)]
  memS id := by rw [hr.memS, expMem_append_single ms .samp ts acc t id (hg.memS id)]
  cell o ho s hs := by
    simp only [hr.cell o ho s hs, List.map_append, List.sum_append, List.map_cons, List.map_nil,
      List.sum_cons, List.sum_nil, good_cellOr0 ms mo ts [t] acc hg o s ((hr.memO o).mp ho) ((hr.memS s).mp hs)]

end good

/-! ### path selection and the pairwise fold -/

section fold
variable [AddCommMonoid α] [DecidableEq α]

theorem fastOk_modes {fs fo : MdF} {ms mo : Mode} {ts : List (Table α)}
    (h : fastOk fs fo ms mo ts = true) : ms = .union ∧ mo = .union := by
  unfold fastOk at h
  simp only [Bool.and_eq_true, beq_iff_eq] at h
  exact h.2

theorem merge2_cases (fs fo : MdF) (ms mo : Mode) (a b : Table α) :
    (fastOk fs fo ms mo [a, b] = true ∧ merge2 fs fo ms mo a b = .ok (fastMerge [a, b])) ∨
    (merge2 fs fo ms mo a b = .ok (generalTable fs fo ms mo a b) ∧
      newOrder ms a.samp b.samp ≠ [] ∧ newOrder mo a.obs b.obs ≠ []) ∨
    (merge2 fs fo ms mo a b = .error .tableException ∧
      ∃ ax, newOrder (mOf ms mo ax) (a.ids ax) (b.ids ax) = []) := by
  unfold merge2
  by_cases hf : fastOk fs fo ms mo [a, b] = true
  · exact .inl ⟨hf, if_pos hf⟩
  · rw [if_neg hf]
    exact .inr (generalMerge_cases fs fo ms mo a b).symm

theorem merge2_step (fs fo : MdF) {ms mo : Mode} {ts : List (Table α)} {acc t : Table α}
    (hg : Good ms mo ts acc) (ht : OpWF t) :
    (∃ r, merge2 fs fo ms mo acc t = .ok r ∧ Good ms mo (ts ++ [t]) r ∧
      (ms = .inter → r.samp ≠ []) ∧ (mo = .inter → r.obs ≠ [])) ∨
    (merge2 fs fo ms mo acc t = .error .tableException ∧
      ∃ ax, newOrder (mOf ms mo ax) (acc.ids ax) (t.ids ax) = []) := by
  rcases merge2_cases fs fo ms mo acc t with ⟨hf, h⟩ | ⟨h, h1, h2⟩ | h
  · obtain ⟨rfl, rfl⟩ := fastOk_modes hf
    exact .inl ⟨_, h, good_combine hg (good_fast _ (opWF_pair hg.wf ht)),
      fun e => (nomatch e), fun e => (nomatch e)⟩
  · exact .inl ⟨_, h, good_combine hg (good_general fs fo ms mo acc t hg.wf),
      fun _ => h1, fun _ => h2⟩
  · exact .inr h

theorem foldMerge_cons_ok {fs fo : MdF} {ms mo : Mode} {acc t r : Table α} (ts : List (Table α))
    (h : merge2 fs fo ms mo acc t = .ok r) :
    foldMerge fs fo ms mo acc (t :: ts) = foldMerge fs fo ms mo r ts := by
  simp only [foldMerge, h]

theorem foldMerge_cons_error {fs fo : MdF} {ms mo : Mode} {acc t : Table α} {e : Err} (ts : List (Table α))
    (h : merge2 fs fo ms mo acc t = .error e) : foldMerge fs fo ms mo acc (t :: ts) = .error e := by
  simp only [foldMerge, h]

theorem foldMerge_single (fs fo : MdF) (ms mo : Mode) (a b : Table α) :
    foldMerge fs fo ms mo a [b] = merge2 fs fo ms mo a b := by
  cases h : merge2 fs fo ms mo a b with
  | ok r => exact foldMerge_cons_ok [] h
  | error e => exact foldMerge_cons_error [] h

theorem fold_spec (fs fo : MdF) (ms mo : Mode) :
    ∀ (rest ts : List (Table α)) (acc : Table α), Good ms mo ts acc → (∀ t ∈ rest, OpWF t) →
      (∃ r, foldMerge fs fo ms mo acc rest = .ok r ∧ Good ms mo (ts ++ rest) r ∧
        (rest ≠ [] → (ms = .inter → r.samp ≠ []) ∧ (mo = .inter → r.obs ≠ []))) ∨
      (foldMerge fs fo ms mo acc rest = .error .tableException ∧
        ∃ (pre : List (Table α)) (t : Table α) (post : List (Table α)) (acc' : Table α),
          rest = pre ++ t :: post ∧ Good ms mo (ts ++ pre) acc' ∧
          ∃ ax, newOrder (mOf ms mo ax) (acc'.ids ax) (t.ids ax) = []) := by
  intro rest
  induction rest with
  | nil => exact fun ts acc hg _ => .inl ⟨acc, rfl, ts.append_nil.symm ▸ hg, fun h => absurd rfl h⟩
  | cons t rest ih =>
    intro ts acc hg hwf
    obtain ⟨ht, hwf⟩ := List.forall_mem_cons.mp hwf
    rcases merge2_step fs fo hg ht with ⟨r1, hm, hg1, hne1⟩ | ⟨hm, hemp⟩
    · rw [foldMerge_cons_ok _ hm]
      rcases ih (ts ++ [t]) r1 hg1 hwf with
        ⟨r, hf, hg3, hne3⟩ | ⟨hf, pre, t', post, acc', hrest, hg', hemp⟩
      · refine .inl ⟨r, hf, List.append_cons ts t rest ▸ hg3, fun _ => ?_⟩
        cases rest with
        | nil => cases hf; exact hne1
        | cons _ _ => exact hne3 (List.cons_ne_nil _ _)
      · exact .inr ⟨hf, t :: pre, t', post, acc', congrArg (t :: ·) hrest,
          List.append_cons ts t pre ▸ hg', hemp⟩
    · exact .inr ⟨foldMerge_cons_error _ hm, [], t, rest, acc, rfl, ts.append_nil.symm ▸ hg, hemp⟩

end fold

/-! ### metadata along the fold -/

section md
variable [AddCommMonoid α] [DecidableEq α]

/-- domain hypothesis on a metadata function: "no metadata, no metadata" gives no metadata
(`None` or an empty mapping); `None` passed as the function satisfies it -/
def Neutral (f : MdF) : Prop := canon (applyF f none none) = []

theorem neutral_none : Neutral none := rfl
theorem neutral_preferSelf : Neutral (some preferSelf) := rfl

/-- the accumulated table and the specification's per-axis view agree, ID by ID -/
def MdRel (ax : Axis) (acc : Table α) (v : AxV) : Prop :=
  (∀ id, id ∈ acc.ids ax ↔ id ∈ v.ids) ∧ (∀ id, acc.mdOf? ax id = v.md id)

theorem mdRel_ofTable (ax : Axis) (a : Table α) : MdRel ax a (AxV.ofTable a ax) :=
  ⟨fun _ => Iff.rfl, fun _ => rfl⟩

theorem newOrder_mem_congr (m : Mode) {a a' b : List Id} (h : ∀ x, x ∈ a ↔ x ∈ a') (x : Id) :
    x ∈ newOrder m a b ↔ x ∈ newOrder m a' b := by
  rw [mem_newOrder, mem_newOrder]
  cases m
  · exact or_congr_left (h x)
  · exact and_congr_left' (h x)

theorem AxV.step_ids (f : MdFun) (m : Mode) (ax : Axis) (v : AxV) (t : Table α) :
    (AxV.step f m ax v t).ids = newOrder m v.ids (t.ids ax) := rfl

theorem AxV.step_md_eq_mdAt (f : MdFun) (m : Mode) (ax : Axis) (v : AxV) (t : Table α) (id : Id) :
    (AxV.step f m ax v t).md id =
      mdAt (newOrder m v.ids (t.ids ax)) (fun i => f (v.md i) (t.mdOf? ax i)) id := by
  unfold AxV.step mdAt
  simp only [lookupBy_map_self_ite, List.all_map, Function.comp_def, apply_ite (Option.map canon),
    Option.map_some, Option.map_none]

/-- what a step of the specification says about one ID (the entries are computed once per step) -/
theorem AxV.step_md (f : MdFun) (m : Mode) (ax : Axis) (v : AxV) (t : Table α) (id : Id) :
    (AxV.step f m ax v t).md id =
      if (newOrder m v.ids (t.ids ax)).all (fun i => (canon (f (v.md i) (t.mdOf? ax i))).isEmpty) then none
      else if id ∈ newOrder m v.ids (t.ids ax) then some (canon (f (v.md id) (t.mdOf? ax id))) else none :=
  AxV.step_md_eq_mdAt f m ax v t id

theorem mdRel_general (fs fo : MdF) (ms mo : Mode) (ax : Axis) (acc t : Table α) (v : AxV)
    (h : MdRel ax acc v) :
    MdRel ax (generalTable fs fo ms mo acc t)
      (AxV.step (applyF (fOf fs fo ax)) (mOf ms mo ax) ax v t) := by
  have hids : ∀ x, x ∈ (generalTable fs fo ms mo acc t).ids ax ↔
      x ∈ newOrder (mOf ms mo ax) v.ids (t.ids ax) := fun x =>
    generalTable_ids fs fo ms mo acc t ax ▸ newOrder_mem_congr _ h.1 x
  refine ⟨hids, fun id => ?_⟩
  rw [general_md, AxV.step_md_eq_mdAt]
  exact mdAt_congr hids (fun i => by rw [h.2 i]) id

theorem mdOf_of_noMd (t : Table α) (h : hasNoMd t = true) (ax : Axis) (id : Id) : t.mdOf? ax id = none := by
  unfold hasNoMd at h
  simp only [Bool.and_eq_true, Option.isNone_iff_eq_none] at h
  cases ax
  · rw [Table.mdOf?, Table.md, h.2]; rfl
  · rw [Table.mdOf?, Table.md, h.1]; rfl

/-- whenever the fast path is chosen, the merged entry of every ID is "no metadata" -/
theorem fast_entries_empty (fs fo : MdF) (ts : List (Table α)) (hf : fastOk fs fo .union .union ts = true)
    (ax : Axis) (hn : Neutral (fOf fs fo ax)) (x y : Option Md)
    (hx : (ts.all hasNoMd = true) → x = none) (hy : (ts.all hasNoMd = true) → y = none) :
    canon (applyF (fOf fs fo ax) x y) = [] := by
  unfold fastOk at hf
  simp only [Bool.and_eq_true, Bool.or_eq_true, Option.isNone_iff_eq_none] at hf
  rcases hf.1 with h | h
  · rw [hx h, hy h]; exact hn
  · cases ax
    · rw [fOf, h.2]; rfl
    · rw [fOf, h.1]; rfl

theorem mdRel_fast (fs fo : MdF) (ax : Axis) (acc t : Table α) (v : AxV) (h : MdRel ax acc v)
    (hf : fastOk fs fo .union .union [acc, t] = true) (hn : Neutral (fOf fs fo ax)) :
    MdRel ax (fastMerge [acc, t]) (AxV.step (applyF (fOf fs fo ax)) .union ax v t) := by
  refine ⟨fun x => ?_, fun id => ?_⟩
  · rw [fastMerge_ids_mem, AxV.step_ids, ← newOrder_mem_congr .union h.1, ← expMem_pair, expMem_union_iff]
  · rw [fastMerge_mdOf, AxV.step_md_eq_mdAt]
    refine (mdAt_of_empty (fun i _ => ?_) id).symm
    apply fast_entries_empty fs fo [acc, t] hf ax hn
    · intro hno
      rw [← h.2 i]
      exact mdOf_of_noMd acc (List.all_eq_true.mp hno acc List.mem_cons_self) ax i
    · intro hno
      exact mdOf_of_noMd t (List.all_eq_true.mp hno t (List.mem_cons_of_mem _ List.mem_cons_self)) ax i

theorem fold_md (fs fo : MdF) (ms mo : Mode) (ax : Axis) (hn : Neutral (fOf fs fo ax)) :
    ∀ (rest : List (Table α)) (acc r : Table α) (v : AxV), MdRel ax acc v →
      foldMerge fs fo ms mo acc rest = .ok r →
      MdRel ax r (rest.foldl (AxV.step (applyF (fOf fs fo ax)) (mOf ms mo ax) ax) v) := by
  intro rest
  induction rest with
  | nil =>
    intro acc r v h hm
    cases hm
    exact h
  | cons t rest ih =>
    intro acc r v h hm
    rcases merge2_cases fs fo ms mo acc t with ⟨hf, h2⟩ | ⟨h2, _⟩ | ⟨h2, _⟩
    · rw [foldMerge_cons_ok _ h2] at hm
      obtain ⟨rfl, rfl⟩ := fastOk_modes hf
      refine ih _ r _ ?_ hm
      have : mOf Mode.union Mode.union ax = .union := by cases ax <;> rfl
      rw [this]
      exact mdRel_fast fs fo ax acc t v h hf hn
    · rw [foldMerge_cons_ok _ h2] at hm
      exact ih _ r _ (mdRel_general fs fo ms mo ax acc t v h) hm
    · rw [foldMerge_cons_error _ h2] at hm; cases hm

theorem specFold_none (f : MdFun) (m : Mode) (ax : Axis) :
    ∀ (others : List (Table α)) (v : AxV), (∀ id, v.md id = none) →
      (∀ t ∈ others, ∀ id, canon (f none (t.mdOf? ax id)) = []) →
      ∀ id, (others.foldl (AxV.step f m ax) v).md id = none := by
  intro others
  induction others with
  | nil => intro v hv _ id; exact hv id
  | cons t rest ih =>
    intro v hv hf id
    obtain ⟨ht, hf⟩ := List.forall_mem_cons.mp hf
    refine ih _ (fun id' => ?_) hf id
    rw [AxV.step_md_eq_mdAt]
    exact mdAt_of_empty (fun i _ => by rw [hv i]; exact ht i) id'

theorem specMd_none_of_fast (fs fo : MdF) (a : Table α) (ts : List (Table α)) (hne : ts ≠ [])
    (hf : fastOk fs fo .union .union (a :: ts) = true) (ax : Axis)
    (hn : Neutral (fOf fs fo ax)) (m : Mode) (id : Id) :
    (specMd (fOf fs fo ax) m ax a ts).md id = none := by
  have hentry : ∀ t' ∈ a :: ts, ∀ (x : Option Md) (i : Id),
      ((a :: ts).all hasNoMd = true → x = none) →
      canon (applyF (fOf fs fo ax) x (t'.mdOf? ax i)) = [] := fun t' ht' x i hx =>
    fast_entries_empty fs fo _ hf ax hn x _ hx
      fun hall => mdOf_of_noMd t' (List.all_eq_true.mp hall t' ht') ax i
  cases ts with
  | nil => exact absurd rfl hne
  | cons t rest =>
    refine specFold_none _ m ax rest _ (fun i => ?_)
      (fun t' ht' i => hentry t' (List.mem_cons_of_mem _ (List.mem_cons_of_mem _ ht')) none i fun _ => rfl) id
    rw [AxV.step_md_eq_mdAt]
    exact mdAt_of_empty (fun j _ => hentry t (List.mem_cons_of_mem _ List.mem_cons_self) _ j
      fun hall => mdOf_of_noMd a (List.all_eq_true.mp hall a List.mem_cons_self) ax j) i

end md

/-! ### from the by-ID specification to the Boolean predicate -/

section verdict
variable [AddCommMonoid α] [DecidableEq α]

def opWFb (t : Table α) : Bool := t.wfb && decide t.obs.Nodup && decide t.samp.Nodup

theorem opWF_of_b (t : Table α) (h : opWFb t = true) : OpWF t := by
  unfold opWFb at h
  simp only [Bool.and_eq_true, decide_eq_true_eq] at h
  exact ⟨(Layer.table_wfb_iff t).mp h.1.1, h.1.2, h.2⟩

theorem idsOk_of_mem {m : Mode} {ax : Axis} {ts : List (Table α)} {r : List Id} (hn : r.Nodup)
    (hm : ∀ id, id ∈ r ↔ expMem m ax ts id = true) : idsOk m ax ts r = true := by
  unfold idsOk
  simp only [Bool.and_eq_true, decide_eq_true_eq, List.all_eq_true, Bool.or_eq_true, Bool.not_eq_true']
  refine ⟨⟨hn, fun id hid => (hm id).mp hid⟩, fun id _ => ?_⟩
  cases h : expMem m ax ts id
  · exact .inl rfl
  · exact .inr ((hm id).mpr h)

theorem cellsOk_of_good {ms mo : Mode} {ts : List (Table α)} {r : Table α} (hg : Good ms mo ts r) :
    cellsOk ts r = true := by
  unfold cellsOk
  simp only [List.all_eq_true, decide_eq_true_eq]
  exact hg.cell

/-- under union/union the result's IDs cover every operand's, so the double sum over the result's
IDs of the cell sums splits into the operands' totals -/
theorem total_of_good {ts : List (Table α)} {r : Table α} (hg : Good .union .union ts r)
    (hts : ∀ t ∈ ts, OpWF t) : total r = sumL (ts.map total) := by
  have hsub : ∀ (l : List Id), ∀ x ∈ l, x ∈ l.toFinset := fun _ _ => List.mem_toFinset.mpr
  refine (total_finset r hg.wf _ _ (hsub _) (hsub _)).trans ?_
  refine (Finset.sum_congr rfl fun o ho => Finset.sum_congr rfl fun s hs =>
    congrArg (·.getD 0) (hg.cell o (List.mem_toFinset.mp ho) s (List.mem_toFinset.mp hs))).trans ?_
  refine (sum_sum_listsum ts (fun t o s => cellOr0 t o s) _ _).trans (congrArg List.sum ?_)
  refine List.map_congr_left fun t ht => (total_finset t (hts t ht) _ _ ?_ ?_).symm
  · exact fun x hx => hsub _ x ((hg.memO x).mpr ((expMem_union_iff _ _ _).mpr ⟨t, ht, hx⟩))
  · exact fun x hx => hsub _ x ((hg.memS x).mpr ((expMem_union_iff _ _ _).mpr ⟨t, ht, hx⟩))

theorem totalClause_of_good {ms mo : Mode} {ts : List (Table α)} {r : Table α} (hg : Good ms mo ts r)
    (hts : ∀ t ∈ ts, OpWF t) :
    (!(ms == .union && mo == .union) || decide (total r = sumL (ts.map total))) = true := by
  cases ms with
  | inter => rfl
  | union =>
    cases mo with
    | inter => rfl
    | union => exact decide_eq_true (total_of_good hg hts)

theorem mdOk_of_eq {f : MdF} {m : Mode} {ax : Axis} {a : Table α} {others : List (Table α)} {r : Table α}
    (h : ∀ id, r.mdOf? ax id = (specMd f m ax a others).md id) : mdOk f m ax a others r = true :=
  List.all_eq_true.mpr fun id _ => h id ▸ beq_self_eq_true _

theorem emptyInter_false {m : Mode} {ax : Axis} {a : Table α} {rest : List (Table α)} {ids : List Id}
    (hm : ∀ id, id ∈ ids ↔ expMem m ax (a :: rest) id = true) (hne : m = .inter → ids ≠ []) :
    (m == .inter && expEmpty .inter ax (a :: rest)) = false := by
  cases m with
  | union => rfl
  | inter =>
    obtain ⟨id, hid⟩ := List.exists_mem_of_ne_nil _ (hne rfl)
    have h := (hm id).mp hid
    refine Bool.not_eq_true _ ▸ fun he => ?_
    have := List.all_eq_true.mp he id (List.mem_flatMap.mpr
      ⟨a, List.mem_cons_self, (expMem_inter_iff _ _ _).mp h a List.mem_cons_self⟩)
    rw [h] at this
    cases this

theorem take2_mem (a : Table α) (pre post : List (Table α)) (t x : Table α)
    (hx : x ∈ (a :: (pre ++ t :: post)).take 2) : x ∈ a :: pre ∨ x = t := by
  cases pre with
  | nil => exact (List.mem_pair.mp hx).imp_left List.mem_singleton.mpr
  | cons p pre => exact .inl (List.mem_of_mem_take (i := 2) hx)

theorem axis_empty {m : Mode} {ax : Axis} {a : Table α} {pre post : List (Table α)} {t acc : Table α}
    (hmem : ∀ id, id ∈ acc.ids ax ↔ expMem m ax (a :: pre) id = true)
    (hemp : newOrder m (acc.ids ax) (t.ids ax) = []) :
    ((m == .inter && expEmpty .inter ax (a :: (pre ++ t :: post))) ||
      emptyUnionStart m ax (a :: (pre ++ t :: post))) = true := by
  have hnone : ∀ id, ¬ id ∈ newOrder m (acc.ids ax) (t.ids ax) := fun id h => nomatch hemp ▸ h
  cases m with
  | inter =>
    -- `inter == inter && b` evaluates to `b`, and `expEmpty` is a `List.all` over the operands' IDs
    refine Bool.or_eq_true_iff.mpr (.inl (List.all_eq_true.mpr fun id _ => ?_))
    rw [Bool.not_eq_true', ← Bool.not_eq_true, expMem_inter_iff]
    intro h
    exact hnone id ((mem_interOrder _ _ _).mpr
      ⟨(hmem id).mpr ((expMem_inter_iff _ _ _).mpr fun x hx =>
          h x (List.cons_subset_cons _ (List.subset_append_left _ _) hx)),
        h t (List.mem_cons_of_mem _ (List.mem_append_right _ List.mem_cons_self))⟩)
  | union =>
    -- likewise `emptyUnionStart union` is a `List.all` over the first two operands
    refine Bool.or_eq_true_iff.mpr (.inr (List.all_eq_true.mpr fun x hx => List.isEmpty_iff.mpr ?_))
    refine List.eq_nil_iff_forall_not_mem.mpr fun id hid => hnone id ((mem_unionOrder _ _ _).mpr ?_)
    rcases take2_mem a pre post t x hx with h | rfl
    · exact .inl ((hmem id).mpr ((expMem_union_iff _ _ _).mpr ⟨x, h, hid⟩))
    · exact .inr hid

theorem allV_eight_clauses (c1 c2 c3 c4 c5 c6 c7 c8 : String) (b1 b2 b3 b4 b5 b6 b7 b8 : Bool)
    (h1 : b1 = true) (h2 : b2 = true) (h3 : b3 = true) (h4 : b4 = true) (h5 : b5 = true)
    (h6 : b6 = true) (h7 : b7 = true) (h8 : b8 = true) :
    Codec.allV [Codec.chk c1 b1, Codec.chk c2 b2, Codec.chk c3 b3, Codec.chk c4 b4, Codec.chk c5 b5,
      Codec.chk c6 b6, Codec.chk c7 b7, Codec.chk c8 b8] = none := by
  subst h1 h2 h3 h4 h5 h6 h7 h8
  rfl

end verdict

end Biom.C09
