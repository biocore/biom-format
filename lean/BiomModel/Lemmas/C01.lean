/-
  Lemmas for C01: the further hypotheses of the round trip (`rtDomain`, `HeaderOK`, the date codec);
  `@@SLASH@@` escaping is undone, the parsers undo the formatters on the domain, `axis_load` and the
  matrix load of a written axis group; the clauses of `C01.holds` on the result a loader must give.
-/
import BiomModel.C01
import BiomModel.Lemmas.C04

set_option linter.unusedSectionVars false

namespace Biom.Hdf5
open Biom Biom.C04 Biom.C01

variable {α δ : Type}

/-! ### hypotheses of the theorems, on top of those of C04 -/

/-- a category name without '@' (sufficient for `unsanitize (sanitize k) = k`; a name containing
the literal text `@@SLASH@@` does not survive, see `slash_witness`) -/
def noAt (k : String) : Bool := !k.toList.contains '@'

/-- `datetime.fromisoformat(d.isoformat()) == d` -/
def DateC.RT (dc : DateC δ) : Prop := ∀ d, dc.parse (dc.iso d) = some d

/-- an empty `type` or `id` is stored like an absent one; group metadata is a dict -/
structure HeaderOK (t : Src α) : Prop where
  typeNe : t.ttype ≠ some ""
  idNe : t.tableId ≠ some ""
  ogmdKeys : ((gmdAll t.ogmd t.ogmdBare).map (·.1)).Nodup
  sgmdKeys : ((gmdAll t.sgmd t.sgmdBare).map (·.1)).Nodup

/-- the round-trip domain of metadata, on top of `mdDomain`: category names contain no '@', and the
hierarchical categories hold lists (a flat 'a; b' text under `taxonomy` is written as its parts and
therefore comes back as a list, not as the text) -/
def rtDomain (md : Option (List (MdE α))) : Prop :=
  ∀ e0 es, md = some (e0 :: es) → ∀ k ∈ keysOf e0,
    noAt k = true ∧ (isSpecial k = true → (colOf (e0 :: es) k).all goodList = true)

/-! ### escaping of category names -/

theorem unsanGo_sanL (l : List Char) (h : '@' ∉ l) : unsanGo 0 (sanL l) = l := by
  -- the only '@' in `sanL l` are those of the inserted patterns, so `unsanGo` matches exactly there
  induction l with
  | nil => rfl
  | cons c cs ih =>
    simp only [List.mem_cons, not_or] at h
    have ih' := ih h.2
    by_cases hc : c = '/'
    · subst hc
      simp [sanL, slashPat, unsanGo, List.isPrefixOf, ih']
    · have hne : ('@' == c) = false := by simpa using h.1
      simp [sanL, hc, unsanGo, slashPat, List.isPrefixOf, hne, ih']

theorem unsanitize_sanitize (k : String) (h : noAt k = true) : unsanitize (sanitize k) = k := by
  unfold unsanitize sanitize
  rw [String.toList_ofList, unsanGo_sanL _ (by simpa [noAt] using h), String.ofList_toList]

/-! ### the parsers undo the formatters -/
section parse
variable [DecidableEq α]

theorem generalParse_scalarCell (c : Utf8) (hc : c.RT) {v : MdVal α} {x : Cell α} (h : scalarCell c v = some x) :
    generalParse c (.scalar x) = .ok v := by
  cases v with
  | text s => cases h; exact congrArg (· >>= fun s => pure (MdVal.text s)) (hc.rt s)
  | int i => cases h; rfl
  | float a => cases h; rfl
  | bool b => cases h; rfl
  | _ => cases h

theorem mapM_generalParse_atoms (c : Utf8) (hc : c.RT) (col : List (MdVal α)) (h : col.all MdVal.isAtom = true) :
    ((col.filterMap (scalarCell c)).map Row.scalar).mapM (generalParse c) = .ok col := by
  induction col with
  | nil => rfl
  | cons v vs ih =>
    rw [List.all_cons, Bool.and_eq_true] at h
    obtain ⟨x, hx⟩ := Option.isSome_iff_exists.mp (scalarCell_isSome c v h.1)
    rw [List.filterMap_cons, hx, List.map_cons, List.mapM_cons, generalParse_scalarCell c hc hx, ih h.2]; rfl

theorem listParse_padRow (c : Utf8) (hc : c.RT) (w : Nat) (l : List String) (hne : l ≠ [])
    (hl : ∀ s ∈ l, s ≠ "") : listParse (α := α) c (.vec (padRow c w l)) = .ok (.list l) := by
  rw [listParse, filter_padRow c hc w l hl, mapM_cellStr c hc]
  exact congrArg Except.ok (if_neg (by rwa [List.isEmpty_iff]))

theorem mapM_listParse_lists (c : Utf8) (hc : c.RT) (w : Nat) (col : List (MdVal α))
    (h : col.all goodList = true) :
    ((col.map (listRow c w)).map Row.vec).mapM (listParse c) = .ok col := by
  rw [List.map_map]
  refine mapM_map_inv _ _ col fun v hv => ?_
  obtain ⟨l, rfl, hne, hl⟩ := goodList_elems (List.all_eq_true.mp h v hv)
  exact listParse_padRow c hc w l hne hl

theorem parse_fmtDs (c : Utf8) (hc : c.RT) (k : String) (col : List (MdVal α)) (hd : colDomain k col = true)
    (hg : isSpecial k = true → col.all goodList = true) :
    ∃ rows, (fmtDs c k col).data.rowsOf = some rows ∧ rows.mapM (parserFor c k) = .ok col := by
  rcases colDomain_cases hd with ⟨hs, _⟩ | ⟨hs, ha⟩
  · have hgl := hg hs
    rw [fmtDs_special c col hs, taxCol_good col hgl, parserFor, if_pos hs]
    exact ⟨_, rfl, mapM_listParse_lists c hc _ col hgl⟩
  · rw [fmtDs_general c col hs, parserFor, if_neg (hs ▸ Bool.false_ne_true)]
    exact ⟨_, rfl, mapM_generalParse_atoms c hc col (atomDomain_atoms col ha)⟩

end parse

/-! ### `axis_load`: the metadata loop -/
section load
variable [DecidableEq α]

/-- an entry as it is read back: the categories of the first ID, in dataset order -/
def normEntry (keys : List String) (e : MdE α) : MdE α :=
  keys.map (fun k => (k, (e.lookup k).getD .none))

/-- what `axis_load` returns for the metadata of an axis of the domain -/
def normMd : Option (List (MdE α)) → Option (List (MdE α))
  | some (e0 :: es) => some ((e0 :: es).map (normEntry (keysOf e0)))
  | _ => none

theorem setKey_normEntry (done : List String) (k : String) (hk : k ∉ done) (e : MdE α) :
    setKey (normEntry done e) k ((e.lookup k).getD .none) = normEntry (done ++ [k]) e := by
  have hany : (normEntry done e).any (fun kv => kv.1 == k) = false := by
    rw [List.any_eq_false]
    intro kv hkv
    obtain ⟨k', hk', rfl⟩ := List.mem_map.mp hkv
    simp only [beq_iff_eq]
    exact fun h => hk (h ▸ hk')
  unfold setKey
  simp only [hany, Bool.false_eq_true, if_false]
  simp [normEntry]

theorem zipUpd_norm (done : List String) (k : String) (hk : k ∉ done) (M : List (MdE α)) :
    zipUpd k (M.map (normEntry done)) (colOf M k) = M.map (normEntry (done ++ [k])) := by
  induction M with
  | nil => rfl
  | cons e es ih =>
    simp only [List.map_cons, colOf, zipUpd, setKey_normEntry done k hk e] at ih ⊢
    rw [ih]

theorem loadCategory_fmtDs (c : Utf8) (hc : c.RT) (M : List (MdE α)) (done : List String) (k : String)
    (hk : k ∉ done) (hat : noAt k = true) (hd : colDomain k (colOf M k) = true)
    (hg : isSpecial k = true → (colOf M k).all goodList = true) :
    loadCategory c (M.map (normEntry done)) (sanitize k, fmtDs c k (colOf M k)) =
      .ok (M.map (normEntry (done ++ [k]))) := by
  obtain ⟨rows, hrows, hparse⟩ := parse_fmtDs c hc k _ hd hg
  simp only [loadCategory, unsanitize_sanitize k hat, hrows, hparse, bind, Except.bind, pure, Except.pure,
    zipUpd_norm done k hk M]

theorem foldlM_load (c : Utf8) (hc : c.RT) (M : List (MdE α)) (ks done : List String)
    (hnd : (done ++ ks).Nodup)
    (hat : ∀ k ∈ ks, noAt k = true ∧ (isSpecial k = true → (colOf M k).all goodList = true))
    (hd : ∀ k ∈ ks, colDomain k (colOf M k) = true) :
    (ks.map (fun k => (sanitize k, fmtDs c k (colOf M k)))).foldlM (loadCategory c) (M.map (normEntry done)) =
      .ok (M.map (normEntry (done ++ ks))) := by
  induction ks generalizing done with
  | nil => simp [pure, Except.pure]
  | cons k ks ih =>
    have e : done ++ [k] ++ ks = done ++ k :: ks := List.append_assoc _ _ _
    have hk : k ∉ done := fun h => (List.nodup_append.mp hnd).2.2 k h k List.mem_cons_self rfl
    rw [List.map_cons, List.foldlM_cons,
      loadCategory_fmtDs c hc M done k hk (hat k List.mem_cons_self).1 (hd k List.mem_cons_self)
        (hat k List.mem_cons_self).2, ← e]
    simp only [bind, Except.bind]
    exact ih (done ++ [k]) (e ▸ hnd) (fun k' hk' => hat k' (List.mem_cons_of_mem _ hk'))
      (fun k' hk' => hd k' (List.mem_cons_of_mem _ hk'))

theorem replicate_norm (M : List (MdE α)) : List.replicate M.length ([] : MdE α) = M.map (normEntry []) := by
  induction M with
  | nil => rfl
  | cons e es ih => simp [List.replicate_succ, ih, normEntry]

theorem loadMd (c : Utf8) (hc : c.RT) (md : Option (List (MdE α))) (n : Nat)
    (hlen : ∀ m, md = some m → m.length = n) (hdom : mdDomain md = true) (hat : rtDomain md) :
    ∃ l, (mdTree c md).foldlM (loadCategory c) (List.replicate n []) = .ok l ∧
      (if l.any (fun e => !e.isEmpty) then some l else none) = normMd md := by
  match md with
  | none => exact ⟨_, rfl, by simp [normMd]⟩
  | some [] => exact absurd hdom Bool.false_ne_true
  | some (e0 :: es) =>
    have hf := mdDomain_facts e0 es hdom
    have hn := hlen _ rfl
    refine ⟨(e0 :: es).map (normEntry (keysOf e0)), ?_, ?_⟩
    · rw [← hn, replicate_norm]
      exact foldlM_load c hc (e0 :: es) (keysOf e0) [] hf.keysNodup (hat e0 es rfl) hf.cols
    · have hne : keysOf e0 ≠ [] := hf.keysNe
      cases hk : keysOf e0 with
      | nil => exact absurd hk hne
      | cons k ks => simp [normMd, hk, normEntry]

end load

/-! ### `axis_load` and the matrix load of a written axis group -/
section reader
variable [DecidableEq α]

def gmdLoaded (g : List (String × String × String)) : List (String × Option String) :=
  g.map (fun kv => (kv.1, some kv.2.2))

theorem mapM_idOfCell (c : Utf8) (hc : c.RT) (ids : List String) :
    (ids.map (strCell (α := α) c)).mapM (idOfCell c) = .ok ids :=
  mapM_map_inv _ _ ids fun s _ => hc.rt s

theorem mapM_loadGmd (c : Utf8) (hc : c.RT) (g : List (String × String × String)) :
    (gmdDsets (α := α) c g).mapM (loadGmd c) = .ok (gmdLoaded g) := by
  rw [gmdDsets, List.mapM_map]
  refine mapM_ok_map _ _ g fun x _ => ?_
  simp only [Function.comp, loadGmd, strCell, hc.rt, bind, Except.bind, pure, Except.pure]

theorem axisLoad_axTree (c : Utf8) (hc : c.RT) (ids : List Id) (md : Option (List (MdE α)))
    (gmd : List (String × String × String)) (cs : CS α)
    (hlen : ∀ m, md = some m → m.length = ids.length) (hdom : mdDomain md = true) (hat : rtDomain md) :
    axisLoad c (axTree c ids md gmd cs) = .ok (ids, normMd md, gmdLoaded gmd) := by
  obtain ⟨l, hl, hn⟩ := loadMd c hc md ids.length hlen hdom hat
  unfold axisLoad
  simp only [axTree, reqE, strDs, mapM_idOfCell c hc, hl, hn, mapM_loadGmd c hc, bind, Except.bind, pure, Except.pure]

theorem mapM_loadNat (l : List Nat) : (l.map (natCell (α := α))).mapM loadNat = .ok l :=
  mapM_map_inv _ _ l fun n _ => cellNat_natCell (α := α) n   -- `loadNat` has the equations of `cellNat`

theorem loadView_matTree (cs : CS α) (major minor : Nat) (hM : cs.nMajor = major) (hm : cs.nMinor = minor) :
    loadView major minor (some (matTree cs)) = .ok cs := by
  subst hM hm
  simp only [loadView, reqE, matTree, mapM_cellVal, mapM_loadNat, bind, Except.bind, pure, Except.pure]

end reader

/-! ### the clauses of `C01.holds` on the expected result -/
section clauses
variable [DecidableEq α]

/-- what a loader must hand back for a written table (the placeholders spelled out) -/
def expected (t : Src α) (genBy : String) (d : δ) : Loaded α δ :=
  { obs := t.obs, samp := t.samp, rows := t.rows, omd := normMd t.omd, smd := normMd t.smd,
    ttype := t.ttype, tableId := idAttr t.tableId, generatedBy := genBy, createDate := .date d,
    ogmd := gmdLoaded (gmdAll t.ogmd t.ogmdBare), sgmd := gmdLoaded (gmdAll t.sgmd t.sgmdBare) }

theorem entryEq_normEntry (keys : List String) (e : MdE α) (hnd : (keysOf e).Nodup)
    (hsub : ∀ k ∈ keysOf e, k ∈ keys) (hlen : (keysOf e).length = keys.length) :
    entryEq e (normEntry keys e) = true := by
  unfold entryEq
  simp only [Bool.and_eq_true, beq_iff_eq, List.all_eq_true]
  constructor
  · simp only [normEntry, List.length_map]
    simpa [keysOf] using hlen
  · intro kv hkv
    have hk : kv.1 ∈ keys := hsub _ (List.mem_map_of_mem (f := (·.1)) hkv)
    unfold normEntry
    rw [lookup_map_self _ keys kv.1 hk, lookup_of_mem_nodup e hnd kv hkv]
    rfl

theorem sameKeys_sub (e e0 : MdE α) (h : sameKeys e e0 = true) : ∀ k ∈ keysOf e, k ∈ keysOf e0 := by
  simp only [sameKeys, Bool.and_eq_true, List.all_eq_true, List.contains_iff_mem] at h
  exact h.1

/-- metadata by ID: what is read back equals what was written, on every ID -/
theorem mdClause_normMd (ids : List Id) (md : Option (List (MdE α))) (hdom : mdDomain md = true) :
    mdClause ids md (normMd md) = true := by
  unfold mdClause
  rw [List.all_eq_true]
  intro id _
  match md with
  | none => rfl
  | some [] => exact absurd hdom Bool.false_ne_true
  | some (e0 :: es) =>
    have hf := mdDomain_facts e0 es hdom
    simp only [normMd, entryOf, Option.bind_some, lookupBy_map]
    cases hl : lookupBy ids (e0 :: es) id with
    | none => rfl
    | some e =>
      simp only [Option.map_some, Option.getD_some]
      rcases List.mem_cons.mp (lookupBy_mem _ _ _ _ hl) with rfl | he
      · exact entryEq_normEntry _ _ hf.keysNodup (fun k hk => hk) rfl
      · obtain ⟨h1, h2, h3⟩ := hf.rest e he
        exact entryEq_normEntry _ _ h1 (sameKeys_sub e e0 h2) h3

theorem gmdClause_loaded (g : List (String × String × String)) (bare : List (String × String))
    (hnd : ((gmdAll g bare).map (·.1)).Nodup) : gmdClause g bare (gmdLoaded (gmdAll g bare)) = true := by
  have hl := fun x hx => lookup_map_nodup (·.1) (fun kv : String × String × String => some kv.2.2)
    (gmdAll g bare) hnd x hx
  unfold gmdClause
  simp only [Bool.and_eq_true, beq_iff_eq, List.all_eq_true]
  exact ⟨⟨by simp [gmdLoaded, gmdAll], fun kv hkv => hl kv (List.mem_append_left _ hkv)⟩,
    fun kv hkv => hl (kv.1, "", kv.2) (List.mem_append_right _ (List.mem_map_of_mem hkv))⟩

end clauses

end Biom.Hdf5
