/-
  C10 — helper lemmas.  General facts first (lists, `mapO`/`mapE`, sums, transposition of a grid by
  ID, `normMd`, `sortIds`); then the two loops of `concat` turned into by-ID statements about one
  operand, `concatViews` as a whole, and how a result laid out like the stacked operands reads by ID;
  last the passage between tables and their oriented views.
-/
import BiomModel.C10
import BiomModel.Lemmas.Layer
import Mathlib.Algebra.Group.Basic
import Mathlib.Algebra.Ring.Rat

namespace Biom.C10
variable {α β γ : Type}

/-! ### lists, association lists, `lookupBy` -/

theorem lookupBy_nil_right (ids : List Id) (i : Id) : lookupBy ids ([] : List β) i = none :=
  Biom.lookupBy_nil_right ids i

theorem not_contains_eq_true (l : List Id) (a : Id) : (!l.contains a) = true ↔ a ∉ l := by
  rw [Bool.not_eq_true', ← Bool.not_eq_true, List.contains_iff_mem]

theorem mem_filter_notin (l l' : List Id) (b : Id) :
    b ∈ l'.filter (fun i => !l.contains i) ↔ b ∈ l' ∧ b ∉ l := by
  rw [List.mem_filter, not_contains_eq_true]

theorem mem_append_filter_notin (l l' : List Id) (b : Id) :
    b ∈ l ++ l'.filter (fun i => !l.contains i) ↔ b ∈ l ∨ b ∈ l' := by
  rw [List.mem_append, mem_filter_notin]
  exact or_congr_right' fun h => and_iff_left h

theorem nodup_append_filter_notin {l l' : List Id} (hl : l.Nodup) (hl' : l'.Nodup) :
    (l ++ l'.filter (fun i => !l.contains i)).Nodup :=
  List.nodup_append.mpr ⟨hl, hl'.filter _, fun _ ha _ hb hab =>
    ((mem_filter_notin l l' _).mp hb).2 (hab ▸ ha)⟩

theorem flatMap_eq_of_forall₂ {δ : Type} {P : β → γ → Prop} {xs : List β} {ys : List γ}
    (h : List.Forall₂ P xs ys) (f : β → List δ) (g : γ → List δ) (hfg : ∀ x y, P x y → g y = f x) :
    ys.flatMap g = xs.flatMap f := by
  induction h with
  | nil => rfl
  | cons hxy _ ih => rw [List.flatMap_cons, List.flatMap_cons, hfg _ _ hxy, ih]

theorem length_flatMap_congr {δ ε : Type} (vs : List β) (f : β → List δ) (g : β → List ε)
    (h : ∀ v ∈ vs, (f v).length = (g v).length) : (vs.flatMap f).length = (vs.flatMap g).length := by
  induction vs with
  | nil => rfl
  | cons v vs ih =>
    simp only [List.flatMap_cons, List.length_append]
    rw [h v List.mem_cons_self, ih (fun w hw => h w (List.mem_cons_of_mem _ hw))]

/-! ### `mapO`, `gather`, `mapE` -/

theorem mapO_eq_map (f : β → Option γ) (g : β → γ) (xs : List β) (h : ∀ x ∈ xs, f x = some (g x)) :
    mapO f xs = some (xs.map g) := by
  induction xs with
  | nil => rfl
  | cons x xs ih =>
    unfold mapO
    rw [h x List.mem_cons_self, ih (fun y hy => h y (List.mem_cons_of_mem _ hy))]
    rfl

theorem mapO_map {δ : Type} (f : β → Option γ) (g : δ → β) (xs : List δ) :
    mapO f (xs.map g) = mapO (fun x => f (g x)) xs := by
  induction xs with
  | nil => rfl
  | cons x xs ih => rw [List.map_cons, mapO, mapO, ih]

theorem gather_idxOf (ids : List Id) (xs : List β) (d : β) (order : List Id)
    (hsub : ∀ b ∈ order, b ∈ ids) (hl : ids.length ≤ xs.length) :
    gather xs (order.map (ids.idxOf ·)) = some (order.map (fun b => (lookupBy ids xs b).getD d)) := by
  unfold gather
  rw [mapO_map]
  refine mapO_eq_map _ _ _ fun b hb => ?_
  obtain ⟨x, hx⟩ := lookupBy_isSome ids xs b hl (hsub b hb)
  rw [← lookupBy_eq_getElem? ids xs b (hsub b hb), hx]
  rfl

theorem mapE_error (f : β → Except Err γ) (xs : List β) (e : Err) (h : mapE f xs = .error e) :
    ∃ x ∈ xs, f x = .error e := by
  induction xs with
  | nil => cases h
  | cons x xs ih =>
    unfold mapE at h
    split at h
    · rename_i e' he
      injection h with h
      exact ⟨x, List.mem_cons_self, h ▸ he⟩
    · split at h
      · rename_i e' he
        injection h with h
        obtain ⟨y, hy, hfy⟩ := ih (h ▸ he)
        exact ⟨y, List.mem_cons_of_mem _ hy, hfy⟩
      · cases h

theorem mapE_forall₂ (f : β → Except Err γ) (P : β → γ → Prop) (xs : List β)
    (h : ∀ x ∈ xs, ∃ y, f x = .ok y ∧ P x y) : ∃ ys, mapE f xs = .ok ys ∧ List.Forall₂ P xs ys := by
  induction xs with
  | nil => exact ⟨[], rfl, .nil⟩
  | cons x xs ih =>
    obtain ⟨y, hy, hP⟩ := h x List.mem_cons_self
    obtain ⟨ys, hys, hPs⟩ := ih (fun z hz => h z (List.mem_cons_of_mem _ hz))
    exact ⟨y :: ys, by unfold mapE; rw [hy]; dsimp only; rw [hys], .cons hP hPs⟩

/-! ### sums over a commutative monoid; transposition of a grid -/

section sums
variable {M : Type} [AddCommMonoid M]

theorem sumL_nil : sumL ([] : List M) = 0 := Biom.sumL_nil

theorem sumL_append (xs ys : List M) : sumL (xs ++ ys) = sumL xs + sumL ys := by
  induction xs with
  | nil => exact (zero_add (sumL ys)).symm
  | cons x xs ih => rw [List.cons_append, sumL_cons, sumL_cons, ih, add_assoc]

theorem sumL_perm {xs ys : List M} (h : xs.Perm ys) : sumL xs = sumL ys := by
  induction h with
  | nil => rfl
  | cons x _ ih => rw [sumL_cons, sumL_cons, ih]
  | swap x y l => rw [sumL_cons, sumL_cons, sumL_cons, sumL_cons, add_left_comm]
  | trans _ _ ih1 ih2 => exact ih1.trans ih2

theorem sumL_map_zero (l : List β) : sumL (l.map (fun _ => (0 : M))) = 0 := by
  induction l with
  | nil => rfl
  | cons x xs ih => rw [List.map_cons, sumL_cons, ih, add_zero]

theorem sumL_flatMap (l : List β) (f : β → List M) :
    sumL (l.flatMap f) = sumL (l.map (fun x => sumL (f x))) := by
  induction l with
  | nil => rfl
  | cons x xs ih => rw [List.flatMap_cons, sumL_append, ih, List.map_cons, sumL_cons]

theorem sumL_map_add (l : List β) (f g : β → M) :
    sumL (l.map (fun x => f x + g x)) = sumL (l.map f) + sumL (l.map g) := by
  induction l with
  | nil => simp only [List.map_nil, sumL_nil, add_zero]
  | cons x xs ih =>
    simp only [List.map_cons, sumL_cons, ih]
    rw [add_assoc, add_assoc, add_left_comm (g x)]

/-- summing a grid by columns or by rows gives the same total -/
theorem sumL_transposeGrid (n : Nat) (grid : List (List M)) (hl : ∀ r ∈ grid, r.length = n) :
    sumL ((transposeGrid n grid).map sumL) = sumL (grid.map sumL) := by
  unfold transposeGrid
  rw [List.map_map]
  induction grid with
  | nil => exact sumL_map_zero _
  | cons r rs ih =>
    have hr := hl r List.mem_cons_self
    -- every column sum splits into the entry of the first row and the column sum of the rest
    have hstep : (List.range n).map (sumL ∘ colAt (r :: rs)) =
        (List.range n).map (fun j => r.getD j 0 + sumL (colAt rs j)) :=
      List.map_congr_left fun j hj => by
        have hjn : j < r.length := hr ▸ List.mem_range.mp hj
        rw [Function.comp_apply, colAt_cons r rs j hjn, sumL_cons, List.getElem_eq_getD 0]
    rw [hstep, sumL_map_add, List.map_cons, sumL_cons]
    exact congr (congrArg _ (hr ▸ congrArg sumL (range_map_getD r 0)))
      (ih fun r' hr' => hl r' (List.mem_cons_of_mem _ hr'))

end sums

/-- the value at (a, b) read through the transposed grid equals the value read directly -/
theorem cell_transpose (ids1 ids2 : List Id) (grid : List (List α)) (a b : Id)
    (hl : ∀ r ∈ grid, r.length = ids2.length) :
    (lookupBy ids2 (transposeGrid ids2.length grid) a).bind (fun c => lookupBy ids1 c b) =
    (lookupBy ids1 grid b).bind (fun r => lookupBy ids2 r a) := by
  by_cases ha : a ∈ ids2
  · obtain ⟨j, hj⟩ := indexOf?_isSome ids2 a ha
    have hlt := indexOf?_lt ids2 a j hj
    rw [lookupBy_of_indexOf? ids2 _ a j hj, transposeGrid_getElem?, if_pos hlt, Option.bind_some,
      lookupBy_colAt ids1 grid j b (fun r hr => (hl r hr).symm ▸ hlt)]
    exact congrArg _ (funext fun r => (lookupBy_of_indexOf? ids2 r a j hj).symm)
  · rw [lookupBy_none_of_not_mem _ _ _ ha]
    cases lookupBy ids1 grid b with
    | none => rfl
    | some r => exact (lookupBy_none_of_not_mem _ _ _ ha).symm

/-! ### metadata normalisation -/

theorem normMd_all (l : List Md) (h : l.all (fun m => m.isEmpty) = true) : normMd (some l) = none := by
  rw [normMd, if_pos h]

theorem normMd_not_all (l : List Md) (h : l.all (fun m => m.isEmpty) = false) :
    normMd (some l) = some l := by
  rw [normMd, if_neg (Bool.eq_false_iff.mp h)]

theorem normMd_some_eq_none (l : List Md) : normMd (some l) = none ↔ ∀ m ∈ l, m = [] := by
  rw [normMd]
  simp only [ite_eq_left_iff, reduceCtorEq, imp_false, Decidable.not_not, List.all_eq_true,
    List.isEmpty_iff]

theorem normMd_eq_none_or (x : Option (List Md)) : normMd x = none ∨ normMd x = x := by
  cases x with
  | none => exact Or.inl rfl
  | some l =>
    cases h : l.all (fun m => m.isEmpty) with
    | true => exact Or.inl (normMd_all l h)
    | false => exact Or.inr (normMd_not_all l h)

theorem normMd_idem (x : Option (List Md)) : normMd (normMd x) = normMd x := by
  rcases normMd_eq_none_or x with h | h
  · rw [h]; rfl
  · rw [h]; exact h

theorem all_empty_eq_replicate (l : List Md) (h : l.all (fun m => m.isEmpty) = true) :
    l = List.replicate l.length [] := by
  induction l with
  | nil => rfl
  | cons m ms ih =>
    simp only [List.all_cons, Bool.and_eq_true] at h
    have hm : m = [] := List.isEmpty_iff.mp h.1
    rw [List.length_cons, List.replicate_succ, ← ih h.2, hm]

theorem normMd_getD (x : Option (List Md)) (n : Nat) (h : ∀ m, x = some m → m.length = n) :
    (normMd x).getD (List.replicate n []) = x.getD (List.replicate n []) := by
  cases x with
  | none => rfl
  | some l =>
    cases hall : l.all (fun m => m.isEmpty) with
    | true =>
      rw [normMd_all l hall, ← h l rfl]
      exact (all_empty_eq_replicate l hall).symm
    | false => rw [normMd_not_all l hall]

theorem normMd_eq_some {x : Option (List Md)} {m : List Md} (h : normMd x = some m) : x = some m :=
  (normMd_eq_none_or x).elim (fun e => nomatch e.symm.trans h) fun e => e.symm.trans h

theorem normMd_lookup (ids : List Id) (l : List Md) (a : Id) :
    ((normMd (some l)).bind (fun m => lookupBy ids m a)).getD [] = (lookupBy ids l a).getD [] := by
  cases h : l.all (fun m => m.isEmpty) with
  | true => rw [normMd_all l h, lookupBy_all_empty h a]; rfl
  | false => rw [normMd_not_all l h]; rfl

theorem normMd_reindex (ids order : List Id) (l : List Md) :
    normMd ((normMd (some l)).map (fun m => order.map (fun b => (lookupBy ids m b).getD []))) =
      normMd (some (order.map (fun b => (lookupBy ids l b).getD []))) := by
  cases hall : l.all (fun m => m.isEmpty) with
  | true =>
    rw [normMd_all l hall]
    refine (normMd_all _ (List.all_eq_true.mpr fun x hx => ?_)).symm
    obtain ⟨b, _, rfl⟩ := List.mem_map.mp hx
    rw [lookupBy_all_empty hall b]
    rfl
  | false => rw [normMd_not_all l hall]; rfl

/-! ### the common order -/

theorem insertId_perm (a : Id) (l : List Id) : (insertId a l).Perm (a :: l) := by
  induction l with
  | nil => exact List.Perm.refl _
  | cons b bs ih =>
    unfold insertId
    split
    · exact List.Perm.refl _
    · exact (List.Perm.cons b ih).trans (List.Perm.swap a b bs)

theorem sortIds_perm (l : List Id) : (sortIds l).Perm l := by
  induction l with
  | nil => exact List.Perm.refl _
  | cons a as ih => exact (insertId_perm a (sortIds as)).trans (List.Perm.cons a ih)

theorem mem_sortIds (l : List Id) (b : Id) : b ∈ sortIds l ↔ b ∈ l := (sortIds_perm l).mem_iff

theorem nodup_sortIds (l : List Id) : (sortIds l).Nodup ↔ l.Nodup := (sortIds_perm l).nodup_iff

theorem insertId_sorted (a : Id) (l : List Id) (h : l.Pairwise (· ≤ ·)) :
    (insertId a l).Pairwise (· ≤ ·) := by
  induction l with
  | nil => exact List.pairwise_singleton _ _
  | cons b bs ih =>
    obtain ⟨hb, hbs⟩ := List.pairwise_cons.mp h
    rw [insertId]
    split
    · rename_i hab
      exact List.pairwise_cons.mpr ⟨fun c hc => (List.mem_cons.mp hc).elim (· ▸ hab)
        fun hc => String.le_trans hab (hb c hc), h⟩
    · rename_i hab
      refine List.pairwise_cons.mpr ⟨fun c hc => ?_, ih hbs⟩
      rcases List.mem_cons.mp ((insertId_perm a bs).mem_iff.mp hc) with rfl | hc
      · exact (String.le_total _ _).resolve_left hab
      · exact hb c hc

theorem sorted_sortIds (l : List Id) : (sortIds l).Pairwise (· ≤ ·) := by
  induction l with
  | nil => exact List.Pairwise.nil
  | cons a as ih => exact insertId_sorted a (sortIds as) ih

/-! ### `pairwiseDisjoint` and `nodupB` of the specification as propositions -/

def Disj (x y : List Id) : Prop := ∀ a ∈ x, a ∉ y

theorem pairwiseDisjoint_iff (ls : List (List Id)) :
    pairwiseDisjoint ls = true ↔ ls.Pairwise Disj := by
  induction ls with
  | nil => exact ⟨fun _ => .nil, fun _ => rfl⟩
  | cons x rest ih =>
    simp only [pairwiseDisjoint, Bool.and_eq_true, List.all_eq_true, not_contains_eq_true, ih,
      List.pairwise_cons, Disj]

theorem nodupB_iff (l : List Id) : nodupB l = true ↔ l.Nodup := by
  induction l with
  | nil => exact ⟨fun _ => .nil, fun _ => rfl⟩
  | cons x xs ih => simp only [nodupB, Bool.and_eq_true, not_contains_eq_true, ih, List.nodup_cons]

/-! ### well-formed views -/

structure View.WF (v : View α) : Prop where
  nvecs : v.vecs.length = v.aids.length
  lens : ∀ vec ∈ v.vecs, vec.length = v.oids.length
  amdLen : ∀ m, v.amd = some m → m.length = v.aids.length
  omdLen : ∀ m, v.omd = some m → m.length = v.oids.length

def ViewsWF (vs : List (View α)) : Prop := ∀ v ∈ vs, v.WF ∧ v.oids.Nodup

theorem amdEntries_length (v : View α) (hv : v.WF) : (amdEntries v).length = v.aids.length := by
  unfold amdEntries
  cases h : v.amd with
  | none => exact List.length_replicate.trans hv.nvecs
  | some m => exact hv.amdLen m h

/-- the other-axis entries of an operand as `padWith` extends them -/
abbrev omdList (v : View α) : List Md := v.omd.getD (List.replicate v.oids.length [])

theorem omdList_length (v : View α) (hv : v.WF) : (omdList v).length = v.oids.length := by
  unfold omdList
  cases h : v.omd with
  | none => exact List.length_replicate
  | some m => exact hv.omdLen m h

/-! ### the first loop -/

/-- one step of `scan`: its accumulator `inv` after operand `v` -/
def collect (inv : List (Id × Md)) (v : View α) : List (Id × Md) :=
  inv ++ (v.oids.filter (fun i => !(inv.map (·.1)).contains i)).map (fun i => (i, entryOf v i))

theorem keys_collect (inv : List (Id × Md)) (v : View α) :
    (collect inv v).map (·.1) = inv.map (·.1) ++ v.oids.filter (fun i => !(inv.map (·.1)).contains i) := by
  unfold collect
  rw [List.map_append, List.map_map]
  exact congrArg _ (List.map_id' _)

theorem lookup_collect (inv : List (Id × Md)) (v : View α) (b : Id) :
    (collect inv v).lookup b =
      (inv.lookup b).or (if v.oids.contains b then some (entryOf v b) else none) := by
  unfold collect
  rw [List.lookup_append]
  by_cases hb : b ∈ inv.map (·.1)
  · obtain ⟨y, hy⟩ := Option.isSome_iff_exists.mp ((lookup_isSome_iff_mem_keys inv b).mpr hb)
    rw [hy]
    rfl
  · refine congrArg _ ?_
    by_cases hbv : b ∈ v.oids
    · rw [if_pos (List.contains_iff_mem.mpr hbv)]
      exact lookup_map_self (entryOf v) _ b ((mem_filter_notin _ _ b).mpr ⟨hbv, hb⟩)
    · rw [if_neg (mt List.contains_iff_mem.mp hbv)]
      refine lookup_none_of_not_mem _ b fun hm => hbv ?_
      rw [List.map_map] at hm
      exact (List.mem_filter.mp (List.map_id' _ ▸ hm)).1

theorem scan_cons_ok (v : View α) (rest : List (View α)) (seen : List Id) (inv inv' : List (Id × Md)) :
    scan (v :: rest) seen inv = .ok inv' ↔
      (∀ a ∈ v.aids, a ∉ seen) ∧ scan rest (seen ++ v.aids) (collect inv v) = .ok inv' := by
  rw [scan]
  by_cases hany : v.aids.any (fun a => seen.contains a) = true
  · rw [if_pos hany]
    simp only [reduceCtorEq, false_iff, not_and]
    intro h
    obtain ⟨a, ha, hs⟩ := List.any_eq_true.mp hany
    exact absurd (List.contains_iff_mem.mp hs) (h a ha)
  · rw [if_neg hany]
    refine (and_iff_right fun a ha hs => hany (List.any_eq_true.mpr ⟨a, ha, ?_⟩)).symm
    exact List.contains_iff_mem.mpr hs

theorem scan_error (vs : List (View α)) (seen : List Id) (inv : List (Id × Md)) (e : Err)
    (h : scan vs seen inv = .error e) : e = .disjointId := by
  induction vs generalizing seen inv with
  | nil => cases h
  | cons v rest ih =>
    rw [scan] at h
    split at h
    · cases h; rfl
    · exact ih _ _ h

theorem scan_ok_iff (vs : List (View α)) (seen : List Id) (inv : List (Id × Md)) :
    (∃ inv', scan vs seen inv = .ok inv') ↔
      (∀ v ∈ vs, ∀ a ∈ v.aids, a ∉ seen) ∧ (vs.map (·.aids)).Pairwise Disj := by
  induction vs generalizing seen inv with
  | nil => exact ⟨fun _ => ⟨nofun, .nil⟩, fun _ => ⟨inv, rfl⟩⟩
  | cons v rest ih =>
    simp only [scan_cons_ok, exists_and_left, ih, List.forall_mem_cons, List.map_cons, List.pairwise_cons,
      List.mem_append, not_or, List.forall_mem_map, Disj]
    constructor
    · rintro ⟨hv, h1, hp⟩
      exact ⟨⟨hv, fun w hw a ha => (h1 w hw a ha).1⟩, fun w hw a ha hy => (h1 w hw a hy).2 ha, hp⟩
    · rintro ⟨⟨hv, h1⟩, h2, hp⟩
      exact ⟨hv, fun w hw a ha => ⟨h1 w hw a ha, fun hs => h2 w hw a hs ha⟩, hp⟩

theorem scan_ids (vs : List (View α)) (seen : List Id) (inv inv' : List (Id × Md))
    (h : scan vs seen inv = .ok inv') :
    (∀ b, b ∈ inv'.map (·.1) ↔ b ∈ inv.map (·.1) ∨ b ∈ vs.flatMap (·.oids)) ∧
    ((inv.map (·.1)).Nodup → (∀ v ∈ vs, v.oids.Nodup) → (inv'.map (·.1)).Nodup) := by
  induction vs generalizing seen inv with
  | nil => cases h; exact ⟨fun b => (or_iff_left List.not_mem_nil).symm, fun hn _ => hn⟩
  | cons v rest ih =>
    obtain ⟨hm, hn⟩ := ih _ _ ((scan_cons_ok ..).mp h).2
    rw [keys_collect] at hm hn
    refine ⟨fun b => ?_, fun hnd hall => ?_⟩
    · rw [hm b, mem_append_filter_notin, or_assoc, List.flatMap_cons, List.mem_append]
    · rw [List.forall_mem_cons] at hall
      exact hn (nodup_append_filter_notin hnd hall.1) hall.2

theorem scan_lookup (vs : List (View α)) (seen : List Id) (inv inv' : List (Id × Md))
    (h : scan vs seen inv = .ok inv') (b : Id) :
    inv'.lookup b =
      (inv.lookup b).or ((vs.find? (fun v => v.oids.contains b)).map (fun v => entryOf v b)) := by
  induction vs generalizing seen inv with
  | nil => cases h; exact (Option.or_none).symm
  | cons v rest ih =>
    rw [ih _ _ ((scan_cons_ok ..).mp h).2, lookup_collect, Option.or_assoc, List.find?_cons]
    cases v.oids.contains b <;> rfl

/-! ### the second loop: one operand padded, then brought to the common order -/

/-- the vector of an operand brought to the common order, by ID -/
def ovec [Zero α] (order : List Id) (v : View α) (vec : List α) : List α :=
  order.map (fun b => (lookupBy v.oids vec b).getD 0)

/-- what `sort_order` yields, by ID -/
def reorderSpec [Zero α] (order : List Id) (v : View α) : View α :=
  { aids := v.aids, oids := order, vecs := v.vecs.map (ovec order v), amd := normMd v.amd,
    omd := normMd (v.omd.map (fun m => order.map (fun b => (lookupBy v.oids m b).getD []))) }

theorem reorder_eq [Zero α] (order : List Id) (v : View α)
    (h1 : ∀ b ∈ order, b ∈ v.oids) (h2 : ∀ vec ∈ v.vecs, v.oids.length ≤ vec.length)
    (h3 : ∀ m, v.omd = some m → v.oids.length ≤ m.length) :
    reorder order v = .ok (reorderSpec order v) := by
  have hf : mapO (indexOf? v.oids) order = some (order.map (v.oids.idxOf ·)) :=
    mapO_eq_map _ _ _ fun b hb => indexOf?_of_mem _ _ (h1 b hb)
  have hv : mapO (fun vec => gather vec (order.map (v.oids.idxOf ·))) v.vecs =
      some (v.vecs.map (ovec order v)) :=
    mapO_eq_map _ _ _ fun vec hvec => gather_idxOf v.oids vec 0 order h1 (h2 vec hvec)
  unfold reorder reorderSpec
  rw [hf]
  simp only [hv]
  cases hm : v.omd with
  | none => rfl
  | some m =>
    simp only [gather_idxOf v.oids m [] order h1 (h3 m hm)]
    rfl

theorem map_ovec_self [Zero α] (p : View α) (hn : p.oids.Nodup)
    (h2 : ∀ vec ∈ p.vecs, vec.length = p.oids.length) :
    p.vecs.map (ovec p.oids p) = p.vecs :=
  (List.map_congr_left fun vec hvec => map_lookupBy_getD p.oids vec 0 hn (h2 vec hvec).symm).trans
    (List.map_id' _)

theorem omd_reindex_self (p : View α) (hn : p.oids.Nodup)
    (h3 : ∀ m, p.omd = some m → m.length = p.oids.length) :
    p.omd.map (fun m => p.oids.map (fun b => (lookupBy p.oids m b).getD [])) = p.omd := by
  cases hm : p.omd with
  | none => rfl
  | some m => exact congrArg some (map_lookupBy_getD p.oids m [] hn (h3 m hm).symm)

theorem reorderSpec_self [Zero α] (p : View α) (hn : p.oids.Nodup)
    (h2 : ∀ vec ∈ p.vecs, vec.length = p.oids.length)
    (h3 : ∀ m, p.omd = some m → m.length = p.oids.length) :
    reorderSpec p.oids p = { p with amd := normMd p.amd, omd := normMd p.omd } := by
  unfold reorderSpec
  rw [map_ovec_self p hn h2, omd_reindex_self p hn h3]

theorem sortIfNeeded_eq [Zero α] (order : List Id) (p : View α)
    (h1 : ∀ b ∈ order, b ∈ p.oids) (h2 : ∀ vec ∈ p.vecs, vec.length = p.oids.length)
    (h3 : ∀ m, p.omd = some m → m.length = p.oids.length) :
    sortIfNeeded order p = .ok (if p.oids = order then p else reorderSpec order p) := by
  unfold sortIfNeeded
  by_cases h : p.oids = order
  · rw [if_pos h, if_pos h]
  · rw [if_neg h, if_neg h]
    exact reorder_eq order p h1 (fun vec hv => (h2 vec hv).ge) (fun m hm => (h3 m hm).ge)

/-- an operand that has been through the constructor comes out of `sortIfNeeded` the same whether
or not the re-indexing was skipped -/
theorem sortIfNeeded_normal [Zero α] (order : List Id) (p : View α) (hn : order.Nodup)
    (h1 : ∀ b ∈ order, b ∈ p.oids) (h2 : ∀ vec ∈ p.vecs, vec.length = p.oids.length)
    (h3 : ∀ m, p.omd = some m → m.length = p.oids.length)
    (ha : normMd p.amd = p.amd) (ho : normMd p.omd = p.omd) :
    sortIfNeeded order p = .ok (reorderSpec order p) := by
  rw [sortIfNeeded_eq order p h1 h2 h3]
  by_cases h : p.oids = order
  · subst h
    rw [if_pos rfl, reorderSpec_self p hn h2 h3, ha, ho]
  · rw [if_neg h]

theorem mem_missingOf (order : List Id) (v : View α) (b : Id) :
    b ∈ missingOf order v ↔ b ∈ order ∧ b ∉ v.oids := mem_filter_notin v.oids order b

theorem cover_missingOf (order : List Id) (v : View α) :
    ∀ b ∈ order, b ∈ v.oids ∨ b ∈ missingOf order v := fun b hb =>
  (Classical.em (b ∈ v.oids)).imp_right fun h => (mem_missingOf order v b).mpr ⟨hb, h⟩

theorem padWith_nil [Zero α] (first : List (Id × Md)) (v : View α) : padWith first [] v = v := rfl

theorem padWith_cons [Zero α] (first : List (Id × Md)) (m : Id) (ms : List Id) (v : View α) :
    padWith first (m :: ms) v =
    { aids := v.aids, oids := v.oids ++ (m :: ms),
      vecs := v.vecs.map (fun vec => vec ++ List.replicate (m :: ms).length 0),
      amd := normMd v.amd,
      omd := normMd (some (v.omd.getD (List.replicate v.oids.length []) ++
                           (m :: ms).map (fun i => (first.lookup i).getD []))) } := rfl

/-- the zeros appended for the missing IDs are the zeros `ovec` reads for an absent ID -/
theorem ovec_append_zeros [Zero α] (order : List Id) (v : View α) (missing : List Id) (vec : List α)
    (hl : vec.length = v.oids.length) (w : View α) (hw : w.oids = v.oids ++ missing) :
    ovec order w (vec ++ List.replicate missing.length 0) = ovec order v vec := by
  unfold ovec
  rw [hw]
  apply List.map_congr_left
  intro b _
  rw [lookupBy_append _ _ _ _ _ hl.symm]
  by_cases hb : b ∈ v.oids
  · rw [if_pos hb]
  · rw [if_neg hb, lookupBy_replicate_getD, lookupBy_none_of_not_mem _ _ _ hb]
    rfl

/-- other-axis metadata entry of `b` in the padded operand (`first` is what the first loop collected) -/
def padEntry (first : List (Id × Md)) (v : View α) (b : Id) : Md :=
  if b ∈ v.oids then (lookupBy v.oids (omdList v) b).getD [] else (first.lookup b).getD []

theorem padEntry_self (first : List (Id × Md)) (v : View α) (b : Id) (hb : b ∈ v.oids) :
    padEntry first v b = entryOf v b := by
  unfold padEntry entryOf omdList
  rw [if_pos hb]
  cases v.omd with
  | none => exact lookupBy_replicate_getD _ _ _ _
  | some m => rfl

theorem padEntry_eq (first : List (Id × Md)) (v : View α) (hv : v.WF) (missing : List Id) (b : Id)
    (hb : b ∈ v.oids ∨ b ∈ missing) :
    (lookupBy (v.oids ++ missing) (omdList v ++ missing.map (fun i => (first.lookup i).getD [])) b).getD [] =
      padEntry first v b := by
  rw [lookupBy_append _ _ _ _ _ (omdList_length v hv).symm]
  unfold padEntry
  by_cases hbv : b ∈ v.oids
  · rw [if_pos hbv, if_pos hbv]
  · rw [if_neg hbv, if_neg hbv, lookupBy_map_self _ _ _ (hb.resolve_left hbv)]
    rfl

/-- the operand after the second loop, by ID, when at least one ID had to be padded -/
def padSpec [Zero α] (order : List Id) (first : List (Id × Md)) (v : View α) : View α :=
  { aids := v.aids, oids := order, vecs := v.vecs.map (ovec order v), amd := normMd v.amd,
    omd := normMd (some (order.map (padEntry first v))) }

/-- One operand after the second loop, by ID — for ANY enumeration `m :: ms` of its missing IDs. -/
theorem sortIfNeeded_padWith_cons [Zero α] (order : List Id) (first : List (Id × Md)) (m : Id)
    (ms : List Id) (v : View α) (hn : order.Nodup) (hv : v.WF)
    (hcover : ∀ b ∈ order, b ∈ v.oids ∨ b ∈ m :: ms) :
    sortIfNeeded order (padWith first (m :: ms) v) = .ok (padSpec order first v) := by
  rw [padWith_cons, sortIfNeeded_normal order _ hn (fun b hb => List.mem_append.mpr (hcover b hb))]
  · congr 1
    unfold reorderSpec padSpec
    simp only [View.mk.injEq, true_and, List.map_map]
    refine ⟨List.map_congr_left fun vec hvec => ?_, normMd_idem _, ?_⟩
    · exact ovec_append_zeros order v (m :: ms) vec (hv.lens vec hvec) _ rfl
    · rw [normMd_reindex]
      exact congrArg (fun l => normMd (some l))
        (List.map_congr_left fun b hb => padEntry_eq first v hv (m :: ms) b (hcover b hb))
  · intro vec hvec
    obtain ⟨w, hw, rfl⟩ := List.mem_map.mp hvec
    rw [List.length_append, List.length_append, List.length_replicate, hv.lens w hw]
  · dsimp only
    intro l hl
    obtain rfl := Option.some.inj (normMd_eq_some hl)
    rw [List.length_append, List.length_append, List.length_map, omdList_length v hv]
  · exact normMd_idem _
  · exact normMd_idem (some _)

/-- what the rest of `concatViews` uses of an operand `p` made from `v` by the second loop -/
structure Padded [Zero α] (order : List Id) (first : List (Id × Md)) (v p : View α) : Prop where
  aids : p.aids = v.aids
  oids : p.oids = order
  vecs : p.vecs = v.vecs.map (ovec order v)
  amd : amdEntries p = amdEntries v
  omd : normMd p.omd = normMd (some (order.map (padEntry first v)))
  omdLen : ∀ m, p.omd = some m → m.length = order.length

theorem amdEntries_eq (p v : View α) (hv : v.WF) (hlen : p.vecs.length = v.vecs.length)
    (h : p.amd = normMd v.amd) : amdEntries p = amdEntries v := by
  unfold amdEntries
  rw [hlen, h]
  exact normMd_getD _ _ fun m hm => (hv.amdLen m hm).trans hv.nvecs.symm

theorem padSpec_padded [Zero α] (order : List Id) (first : List (Id × Md)) (v : View α) (hv : v.WF) :
    Padded order first v (padSpec order first v) := by
  unfold padSpec
  exact ⟨rfl, rfl, rfl, amdEntries_eq _ v hv (List.length_map _) rfl, normMd_idem (some _),
    fun _ hl => Option.some.inj (normMd_eq_some hl) ▸ List.length_map _⟩

theorem normMd_omd_of_subset (order : List Id) (first : List (Id × Md)) (v : View α)
    (hsub : ∀ b ∈ order, b ∈ v.oids) :
    normMd (v.omd.map (fun m => order.map (fun b => (lookupBy v.oids m b).getD []))) =
      normMd (some (order.map (padEntry first v))) := by
  have : order.map (padEntry first v) = order.map (fun b => (lookupBy v.oids (omdList v) b).getD []) :=
    List.map_congr_left fun b hb => if_pos (hsub b hb)
  rw [this]
  unfold omdList
  cases v.omd with
  | some m => rfl
  | none =>
    refine (normMd_all _ (List.all_eq_true.mpr fun x hx => ?_)).symm
    obtain ⟨b, _, rfl⟩ := List.mem_map.mp hx
    rw [Option.getD_none, lookupBy_replicate_getD]
    rfl

theorem sortIfNeeded_padded [Zero α] (order : List Id) (first : List (Id × Md)) (v : View α)
    (hn : order.Nodup) (hv : v.WF) (hsub : ∀ b ∈ order, b ∈ v.oids) :
    ∃ p, sortIfNeeded order v = .ok p ∧ Padded order first v p := by
  refine ⟨_, sortIfNeeded_eq order v hsub hv.lens hv.omdLen, ?_⟩
  have ho := normMd_omd_of_subset order first v hsub
  by_cases h : v.oids = order
  · subst h
    rw [if_pos rfl]
    exact ⟨rfl, rfl, (map_ovec_self v hn hv.lens).symm, rfl,
      (congrArg normMd (omd_reindex_self v hn hv.omdLen)).symm.trans ho, hv.omdLen⟩
  · rw [if_neg h]
    exact ⟨rfl, rfl, rfl, amdEntries_eq _ v hv (List.length_map _) rfl, (normMd_idem _).trans ho,
      fun l hl => by
        obtain ⟨m, _, rfl⟩ := Option.map_eq_some_iff.mp (normMd_eq_some hl)
        exact List.length_map _⟩

theorem padSort_spec [Zero α] (order : List Id) (first : List (Id × Md)) (v : View α)
    (hn : order.Nodup) (hv : v.WF) :
    ∃ p, padSort order first v = .ok p ∧ Padded order first v p := by
  unfold padSort pad
  have hc := cover_missingOf order v
  cases hm : missingOf order v with
  | nil =>
    rw [hm] at hc
    exact sortIfNeeded_padded order first v hn hv fun b hb => (hc b hb).resolve_right List.not_mem_nil
  | cons m ms =>
    rw [hm] at hc
    exact ⟨_, sortIfNeeded_padWith_cons order first m ms v hn hv hc, padSpec_padded order first v hv⟩

/-- **The order in which the missing IDs are enumerated does not matter**: Python iterates a set
here; whatever order it produces, the operand after `sort_order` is the one the model computes. -/
theorem padSort_missing_order [Zero α] (order : List Id) (first : List (Id × Md)) (v : View α)
    (missing' : List Id) (hn : order.Nodup) (hv : v.WF) (hperm : missing'.Perm (missingOf order v)) :
    sortIfNeeded order (padWith first missing' v) = padSort order first v := by
  unfold padSort pad
  have hc := cover_missingOf order v
  cases hm : missingOf order v with
  | nil =>
    rw [hm] at hperm
    rw [List.perm_nil.mp hperm]
  | cons m ms =>
    rw [hm] at hperm hc
    cases missing' with
    | nil => exact absurd hperm.symm.eq_nil (List.cons_ne_nil _ _)
    | cons m' ms' =>
      rw [sortIfNeeded_padWith_cons order first m ms v hn hv hc,
        sortIfNeeded_padWith_cons order first m' ms' v hn hv
          fun b hb => (hc b hb).imp_right hperm.mem_iff.mpr]

theorem reorder_error (order : List Id) (v : View α) (e : Err) (h : reorder order v = .error e) :
    e ≠ .disjointId := by
  unfold reorder at h
  split at h
  · injection h with h; subst h; decide
  · split at h
    · cases h
    · injection h with h; subst h; decide

theorem padSort_error [Zero α] (order : List Id) (first : List (Id × Md)) (v : View α) (e : Err)
    (h : padSort order first v = .error e) : e ≠ .disjointId := by
  unfold padSort sortIfNeeded at h
  split at h
  · cases h
  · exact reorder_error _ _ _ h

/-! ### the whole method on the oriented views -/

theorem concatViews_refuses_iff [Zero α] (vs : List (View α)) :
    concatViews vs = .error .disjointId ↔ ¬ (vs.map (·.aids)).Pairwise Disj := by
  unfold concatViews
  constructor
  · intro h hp
    obtain ⟨first, hf⟩ := (scan_ok_iff vs [] []).mpr ⟨fun _ _ _ _ => List.not_mem_nil, hp⟩
    rw [hf] at h
    simp only at h
    split at h
    · rename_i e he
      injection h with h
      obtain ⟨x, _, hx⟩ := mapE_error _ _ _ he
      exact padSort_error _ _ _ _ hx h
    · cases h
  · intro hp
    cases hs : scan vs [] [] with
    | error e => rw [scan_error vs [] [] e hs]
    | ok first => exact absurd ((scan_ok_iff vs [] []).mp ⟨first, hs⟩).2 hp

theorem concatViews_eq_ok [Zero α] {vs : List (View α)} {first : List (Id × Md)} {padded : List (View α)}
    (hs : scan vs [] [] = .ok first)
    (hp : mapE (padSort (sortIds (first.map (·.1))) first) vs = .ok padded) :
    concatViews vs = .ok
      { aids := padded.flatMap (·.aids), oids := sortIds (first.map (·.1)),
        vecs := padded.flatMap (·.vecs), amd := normMd (some (padded.flatMap amdEntries)),
        omd := normMd (padded.head?.bind (·.omd)) } := by
  unfold concatViews
  rw [hs]
  dsimp only
  rw [hp]

theorem WF_of_stacked [Zero α] (vs : List (View α)) (hwf : ViewsWF vs) (R : View α)
    (hA : R.aids = vs.flatMap (·.aids))
    (hV : R.vecs = vs.flatMap (fun v => v.vecs.map (ovec R.oids v)))
    (hM : R.amd = normMd (some (vs.flatMap amdEntries)))
    (hO : ∀ m, R.omd = some m → m.length = R.oids.length) : R.WF := by
  refine ⟨?_, ?_, ?_, hO⟩
  · rw [hA, hV]
    exact length_flatMap_congr vs _ _ (fun v hv => by rw [List.length_map, (hwf v hv).1.nvecs])
  · intro vec hvec
    rw [hV] at hvec
    obtain ⟨v, _, hv2⟩ := List.mem_flatMap.mp hvec
    obtain ⟨w, _, rfl⟩ := List.mem_map.mp hv2
    exact List.length_map _
  · rw [hA, hM]
    intro l hl
    obtain rfl := Option.some.inj (normMd_eq_some hl)
    exact length_flatMap_congr vs _ _ (fun v hv => amdEntries_length v (hwf v hv).1)

theorem concatViews_loops [Zero α] (vs : List (View α)) (hwf : ViewsWF vs)
    (hdis : (vs.map (·.aids)).Pairwise Disj) :
    ∃ first padded, scan vs [] [] = .ok first ∧
      mapE (padSort (sortIds (first.map (·.1))) first) vs = .ok padded ∧
      (sortIds (first.map (·.1))).Nodup ∧
      (∀ b, b ∈ sortIds (first.map (·.1)) ↔ ∃ v ∈ vs, b ∈ v.oids) ∧
      List.Forall₂ (Padded (sortIds (first.map (·.1))) first) vs padded := by
  obtain ⟨first, hf⟩ := (scan_ok_iff vs [] []).mpr ⟨fun _ _ _ _ => List.not_mem_nil, hdis⟩
  obtain ⟨hmem, hnd⟩ := scan_ids vs [] [] first hf
  have hnd' : (sortIds (first.map (·.1))).Nodup :=
    (nodup_sortIds _).mpr (hnd List.nodup_nil (fun v hv => (hwf v hv).2))
  obtain ⟨padded, hp, hP⟩ := mapE_forall₂ _ _ vs
    (fun v hv => padSort_spec (sortIds (first.map (·.1))) first v hnd' (hwf v hv).1)
  refine ⟨first, padded, hf, hp, hnd', fun b => ?_, hP⟩
  rw [mem_sortIds, hmem b, List.mem_flatMap]
  exact or_iff_right List.not_mem_nil

theorem concatViews_spec [Zero α] (vs : List (View α)) (hwf : ViewsWF vs)
    (hdis : (vs.map (·.aids)).Pairwise Disj) :
    ∃ R, concatViews vs = .ok R ∧ R.oids.Nodup ∧ R.oids.Pairwise (· ≤ ·) ∧
      (∀ b, b ∈ R.oids ↔ ∃ v ∈ vs, b ∈ v.oids) ∧
      R.aids = vs.flatMap (·.aids) ∧
      R.vecs = vs.flatMap (fun v => v.vecs.map (ovec R.oids v)) ∧
      R.amd = normMd (some (vs.flatMap amdEntries)) ∧ R.WF := by
  obtain ⟨first, padded, hf, hp, hnd, hmem, hP⟩ := concatViews_loops vs hwf hdis
  have hA := flatMap_eq_of_forall₂ hP (·.aids) (·.aids) (fun _ _ h => h.aids)
  have hV := flatMap_eq_of_forall₂ hP (fun v => v.vecs.map (ovec (sortIds (first.map (·.1))) v)) (·.vecs)
    (fun _ _ h => h.vecs)
  have hM := congrArg (fun l => normMd (some l))
    (flatMap_eq_of_forall₂ hP amdEntries amdEntries (fun _ _ h => h.amd))
  refine ⟨_, concatViews_eq_ok hf hp, hnd, sorted_sortIds _, hmem, hA, hV, hM,
    WF_of_stacked vs hwf _ hA hV hM fun l hl => ?_⟩
  have hl := normMd_eq_some hl
  cases hP with
  | nil => cases hl
  | cons h _ => exact h.omdLen l hl

theorem concatViews_omd [Zero α] (v0 : View α) (rest : List (View α)) (hwf : ViewsWF (v0 :: rest))
    (hdis : ((v0 :: rest).map (·.aids)).Pairwise Disj) (R : View α)
    (hR : concatViews (v0 :: rest) = .ok R) :
    ∃ first, scan (v0 :: rest) [] [] = .ok first ∧
      R.omd = normMd (some (R.oids.map (padEntry first v0))) := by
  obtain ⟨first, padded, hf, hp, _, _, hP⟩ := concatViews_loops _ hwf hdis
  obtain rfl := Except.ok.inj ((concatViews_eq_ok hf hp).symm.trans hR)
  refine ⟨first, hf, ?_⟩
  cases hP with
  | cons h _ => exact h.omd

/-! ### a view laid out like the stacked operands, read by ID -/

theorem lookupBy_flatMap (vs : List β) (f : β → List Id) (g : β → List γ)
    (hlen : ∀ v ∈ vs, (f v).length = (g v).length) (hdis : (vs.map f).Pairwise Disj)
    (v : β) (hv : v ∈ vs) (a : Id) (ha : a ∈ f v) :
    lookupBy (vs.flatMap f) (vs.flatMap g) a = lookupBy (f v) (g v) a := by
  induction vs with
  | nil => cases hv
  | cons w rest ih =>
    simp only [List.flatMap_cons]
    rw [lookupBy_append _ _ _ _ _ (hlen w List.mem_cons_self)]
    simp only [List.map_cons, List.pairwise_cons] at hdis
    rcases List.mem_cons.mp hv with rfl | hrest
    · simp only [ha, if_true]
    · have hnw : a ∉ f w := fun haw => hdis.1 (f v) (List.mem_map_of_mem hrest) a haw ha
      simp only [hnw, if_false]
      exact ih (fun u hu => hlen u (List.mem_cons_of_mem _ hu)) hdis.2 hrest

def View.cell? (v : View α) (a b : Id) : Option α :=
  (lookupBy v.aids v.vecs a).bind (fun vec => lookupBy v.oids vec b)

def View.amdEntry (v : View α) (a : Id) : Md := (v.amd.bind (fun m => lookupBy v.aids m a)).getD []

def View.total [Add α] [Zero α] (v : View α) : α := sumL (v.vecs.map sumL)

theorem view_cell [Zero α] (vs : List (View α)) (hwf : ViewsWF vs)
    (hdis : (vs.map (·.aids)).Pairwise Disj) (R : View α)
    (hRa : R.aids = vs.flatMap (·.aids))
    (hRv : R.vecs = vs.flatMap (fun v => v.vecs.map (ovec R.oids v)))
    (v : View α) (hv : v ∈ vs) (a : Id) (ha : a ∈ v.aids) (b : Id) (hb : b ∈ R.oids) :
    R.cell? a b = some (if b ∈ v.oids then (v.cell? a b).getD 0 else 0) ∧
    (b ∈ v.oids → ∃ x, v.cell? a b = some x) := by
  have hvw := (hwf v hv).1
  obtain ⟨vec, hvec⟩ := lookupBy_isSome v.aids v.vecs a hvw.nvecs.ge ha
  have hlen := hvw.lens vec (lookupBy_mem _ _ _ _ hvec)
  have hvc : v.cell? a b = lookupBy v.oids vec b := by rw [View.cell?, hvec]; rfl
  -- the vector of `a` in the result is `vec` brought to the common order
  have hR : R.cell? a b = some ((lookupBy v.oids vec b).getD 0) := by
    unfold View.cell?
    rw [hRa, hRv, lookupBy_flatMap vs (·.aids) (fun v => v.vecs.map (ovec R.oids v))
      (fun u hu => ((List.length_map _).trans (hwf u hu).1.nvecs).symm) hdis v hv a ha,
      lookupBy_map, hvec]
    exact lookupBy_map_self _ _ _ hb
  rw [hvc, hR]
  refine ⟨?_, fun hbv => lookupBy_isSome _ _ _ hlen.ge hbv⟩
  by_cases hbv : b ∈ v.oids
  · rw [if_pos hbv]
  · rw [if_neg hbv, lookupBy_none_of_not_mem _ _ _ hbv]
    rfl

theorem amdEntry_eq (v : View α) (a : Id) :
    v.amdEntry a = (lookupBy v.aids (amdEntries v) a).getD [] := by
  unfold View.amdEntry amdEntries
  cases v.amd with
  | none => exact (lookupBy_replicate_getD _ _ _ _).symm
  | some m => rfl

theorem view_md (vs : List (View α)) (hwf : ViewsWF vs)
    (hdis : (vs.map (·.aids)).Pairwise Disj) (R : View α)
    (hRa : R.aids = vs.flatMap (·.aids))
    (hRm : R.amd = normMd (some (vs.flatMap amdEntries)))
    (v : View α) (hv : v ∈ vs) (a : Id) (ha : a ∈ v.aids) :
    R.amdEntry a = v.amdEntry a := by
  rw [amdEntry_eq v a]
  unfold View.amdEntry
  rw [hRm, normMd_lookup, hRa]
  rw [lookupBy_flatMap vs (·.aids) amdEntries
    (fun u hu => (amdEntries_length u (hwf u hu).1).symm) hdis v hv a ha]

/-- the axis has no metadata in the result exactly when every operand's entries are empty -/
theorem view_md_none (vs : List (View α)) (R : View α)
    (hRm : R.amd = normMd (some (vs.flatMap amdEntries))) :
    R.amd = none ↔ ∀ v ∈ vs, ∀ m ∈ amdEntries v, m = [] := by
  rw [hRm, normMd_some_eq_none]
  exact ⟨fun h v hv m hm => h m (List.mem_flatMap.mpr ⟨v, hv, hm⟩), fun h m hm => by
    obtain ⟨v, hv, hmv⟩ := List.mem_flatMap.mp hm
    exact h v hv m hmv⟩

theorem sumL_ovec {M : Type} [AddCommMonoid M] (order : List Id) (v : View M) (vec : List M)
    (hn : order.Nodup) (hvn : v.oids.Nodup) (hsub : ∀ b ∈ v.oids, b ∈ order)
    (hlen : vec.length = v.oids.length) :
    sumL (ovec order v vec) = sumL vec := by
  have hperm : order.Perm (v.oids ++ order.filter (fun b => !v.oids.contains b)) := by
    refine (List.perm_ext_iff_of_nodup hn (nodup_append_filter_notin hvn hn)).mpr fun b => ?_
    rw [mem_append_filter_notin]
    exact ⟨Or.inr, fun h => h.elim (hsub b) id⟩
  -- the operand's own IDs give back `vec`, the other IDs of the common order read zeros
  have hz : (order.filter (fun b => !v.oids.contains b)).map (fun b => (lookupBy v.oids vec b).getD 0) =
      (order.filter (fun b => !v.oids.contains b)).map (fun _ => (0 : M)) :=
    List.map_congr_left fun b hb => by
      rw [lookupBy_none_of_not_mem _ _ _ ((mem_filter_notin _ _ b).mp hb).2]
      rfl
  unfold ovec
  rw [sumL_perm (hperm.map _), List.map_append, sumL_append]
  rw [map_lookupBy_getD v.oids vec 0 hvn hlen.symm]
  rw [hz, sumL_map_zero, add_zero]

theorem view_total {M : Type} [AddCommMonoid M] (vs : List (View M)) (hwf : ViewsWF vs) (R : View M)
    (hn : R.oids.Nodup)
    (hmem : ∀ b, b ∈ R.oids ↔ ∃ v ∈ vs, b ∈ v.oids)
    (hRv : R.vecs = vs.flatMap (fun v => v.vecs.map (ovec R.oids v))) :
    R.total = sumL (vs.map View.total) := by
  unfold View.total
  rw [hRv, List.map_flatMap, sumL_flatMap]
  congr 1
  apply List.map_congr_left
  intro v hv
  congr 1
  rw [List.map_map]
  apply List.map_congr_left
  intro vec hvec
  exact sumL_ovec R.oids v vec hn (hwf v hv).2 (fun b hb => (hmem b).mpr ⟨v, hv, hb⟩)
    ((hwf v hv).1.lens vec hvec)

/-! ### tables and their oriented views -/

def OpsWF (ts : List (Table α)) : Prop := ∀ t ∈ ts, t.WF ∧ t.obs.Nodup ∧ t.samp.Nodup

theorem viewOf_aids (ax : Axis) (t : Table α) : (viewOf ax t).aids = t.ids ax := by cases ax <;> rfl
theorem viewOf_oids (ax : Axis) (t : Table α) : (viewOf ax t).oids = t.ids ax.other := by cases ax <;> rfl
theorem tableOf_aids (ax : Axis) (ty : Option String) (R : View α) : (tableOf ax ty R).ids ax = R.aids := by
  cases ax <;> rfl
theorem tableOf_oids (ax : Axis) (ty : Option String) (R : View α) :
    (tableOf ax ty R).ids ax.other = R.oids := by cases ax <;> rfl

theorem viewOf_WF (ax : Axis) (t : Table α) (h : t.WF) : (viewOf ax t).WF := by
  obtain ⟨h1, h2, h3, h4⟩ := h
  cases ax with
  | obs => exact ⟨h1, h2, h3, h4⟩
  | samp =>
    obtain ⟨l1, l2⟩ := Layer.transposeGrid_shape t.samp.length t.rows h2
    exact ⟨l1, fun c hc => (l2 c hc).trans h1, h4, h3⟩

theorem viewsWF_of_ops (ax : Axis) (ts : List (Table α)) (h : OpsWF ts) : ViewsWF (ts.map (viewOf ax)) := by
  intro v hv
  obtain ⟨t, ht, rfl⟩ := List.mem_map.mp hv
  refine ⟨viewOf_WF ax t (h t ht).1, ?_⟩
  rw [viewOf_oids]
  cases ax with
  | obs => exact (h t ht).2.2
  | samp => exact (h t ht).2.1

theorem tableOf_WF (ax : Axis) (ty : Option String) (R : View α) (h : R.WF) : (tableOf ax ty R).WF := by
  obtain ⟨h1, h2, h3, h4⟩ := h
  cases ax with
  | obs => exact ⟨h1, h2, h3, h4⟩
  | samp =>
    obtain ⟨l1, l2⟩ := Layer.transposeGrid_shape R.oids.length R.vecs h2
    exact ⟨l1, fun c hc => (l2 c hc).trans h1, h4, h3⟩

theorem cellAx_viewOf (ax : Axis) (t : Table α) (h : t.WF) (a b : Id) :
    (viewOf ax t).cell? a b = cellAx? t ax a b := by
  cases ax with
  | obs => rfl
  | samp => exact cell_transpose t.obs t.samp t.rows a b h.2.1

theorem cellAx_tableOf (ax : Axis) (ty : Option String) (R : View α)
    (h : ∀ vec ∈ R.vecs, vec.length = R.oids.length) (a b : Id) :
    cellAx? (tableOf ax ty R) ax a b = R.cell? a b := by
  cases ax with
  | obs => rfl
  | samp => exact cell_transpose R.aids R.oids R.vecs b a h

theorem mdEntry_viewOf (ax : Axis) (t : Table α) (a : Id) : (viewOf ax t).amdEntry a = mdEntry t ax a := by
  cases ax <;> rfl

theorem mdEntry_tableOf (ax : Axis) (ty : Option String) (R : View α) (a : Id) :
    mdEntry (tableOf ax ty R) ax a = R.amdEntry a := by
  cases ax <;> rfl

theorem total_viewOf {M : Type} [AddCommMonoid M] (ax : Axis) (t : Table M) (h : t.WF) :
    (viewOf ax t).total = total t := by
  cases ax with
  | obs => rfl
  | samp => exact sumL_transposeGrid t.samp.length t.rows h.2.1

theorem total_tableOf {M : Type} [AddCommMonoid M] (ax : Axis) (ty : Option String) (R : View M)
    (h : ∀ vec ∈ R.vecs, vec.length = R.oids.length) : total (tableOf ax ty R) = R.total := by
  cases ax with
  | obs => rfl
  | samp => exact sumL_transposeGrid R.oids.length R.vecs h

/-! ### other-axis metadata (modelled and compared in the correspondence; not part of `holds`) -/

theorem entryOf_viewOf (ax : Axis) (t : Table α) (b : Id) : entryOf (viewOf ax t) b = mdEntry t ax.other b := by
  cases ax <;> rcases t with ⟨_, _, _, _ | _, _ | _, _⟩ <;> rfl

theorem mdEntry_tableOf_other (ax : Axis) (ty : Option String) (R : View α) (b : Id) :
    mdEntry (tableOf ax ty R) ax.other b = (R.omd.bind (fun m => lookupBy R.oids m b)).getD [] := by
  cases ax <;> rfl

theorem find?_viewOf (ax : Axis) (ts : List (Table α)) (b : Id) :
    ((ts.map (viewOf ax)).find? (fun v => v.oids.contains b)).map (fun v => entryOf v b) =
      (ts.find? (fun t => (t.ids ax.other).contains b)).map (fun t => mdEntry t ax.other b) := by
  rw [List.find?_map, Option.map_map]
  exact congr (congrArg Option.map (funext fun t => entryOf_viewOf ax t b))
    (congrArg (List.find? · ts) (funext fun t => by rw [Function.comp_apply, viewOf_oids]))

end Biom.C10
