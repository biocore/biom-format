/-
  C20 — lemmas on the program-level model: the hypotheses its theorems are stated under (`StateWF`, `KwWF`, `ProgWF`),
  the `state` setter in closed form (`applyKw` is `expectedAfter` on dict keywords; `restore`), and the equations of
  `firstTriggered`, `react`, `setCall` and `exec` the property proofs rewrite with.
-/
import BiomModel.C20
import BiomModel.Lemmas.Layer

namespace Biom.C20

/-- registry well-formedness: kinds are distinct (register refuses duplicates), none is called
"all", and every current reaction is a valid one. -/
structure StateWF (s : State) : Prop where
  nodup : (kinds s).Nodup
  noAll : "all" ∉ kinds s
  valid : ∀ kr ∈ s, kr.2 ∈ validReactions

/-- keyword arguments form a dict: keys are distinct -/
def KwWF (kw : Kw) : Prop := (kw.map (·.1)).Nodup

def ProgWF : Prog → Prop
  | .seterr kw => KwWF kw
  | .seterrcall _ _ => True
  | .check _ => True
  | .raise => True
  | .seq a b => ProgWF a ∧ ProgWF b
  | .errstate kw body => KwWF kw ∧ ProgWF body

/-! ### the `state` setter in closed form -/

theorem validKw_iff {s : State} {kw : Kw} :
    validKw s kw = true ↔ ∀ kr ∈ kw, kr.2 ∈ validReactions ∧ (kr.1 = "all" ∨ kr.1 ∈ kinds s) := by
  simp only [validKw, List.all_eq_true, Bool.and_eq_true, Bool.or_eq_true, List.contains_iff_mem, beq_iff_eq]

/-- the reaction kind `k` has after an accepted `seterr(**kw)` if it had `r` before -/
def reactionAfter (kw : Kw) (k r : String) : String :=
  match kw.lookup "all" with
  | some r' => r'
  | none => (kw.lookup k).getD r

theorem expectedAfter_eq (s : State) (kw : Kw) :
    expectedAfter s kw = s.map (fun kr => (kr.1, reactionAfter kw kr.1 kr.2)) := by
  unfold expectedAfter reactionAfter
  cases kw.lookup "all" <;> rfl

theorem reactionAfter_valid {kw : Kw} (hkw : ∀ kr ∈ kw, kr.2 ∈ validReactions) (k : String) {r : String}
    (hr : r ∈ validReactions) : reactionAfter kw k r ∈ validReactions := by
  unfold reactionAfter
  cases hall : kw.lookup "all" with
  | some r' => exact hkw _ (mem_of_lookup kw _ r' hall)
  | none =>
    cases hk : kw.lookup k with
    | some r' => exact hkw _ (mem_of_lookup kw k r' hk)
    | none => exact hr

theorem foldl_set1 (kw : Kw) (h : KwWF kw) (s : State) :
    kw.foldl (fun s kr => set1 s kr.1 kr.2) s = s.map (fun kr => (kr.1, (kw.lookup kr.1).getD kr.2)) := by
  induction kw generalizing s with
  | nil => exact (List.map_id' s).symm
  | cons x rest ih =>
    obtain ⟨xk, xr⟩ := x
    obtain ⟨hx, hrest⟩ := List.nodup_cons.mp h
    rw [List.foldl_cons, ih hrest, set1, List.map_map]
    apply List.map_congr_left
    intro kr _
    dsimp only [Function.comp]
    rw [List.lookup_cons]
    by_cases hk : kr.1 = xk
    · -- `rest` does not list `xk` again, so it leaves the reaction just written alone
      subst hk; rw [if_pos rfl, show (kr.1 == kr.1) = true from beq_iff_eq.mpr rfl, lookup_none_of_not_mem rest _ hx]; rfl
    · rw [if_neg hk, beq_false_of_ne hk]

theorem applyKw_eq_expected (s : State) (kw : Kw) (h : KwWF kw) :
    applyKw s kw = expectedAfter s kw := by
  unfold applyKw expectedAfter
  cases kw.lookup "all" with
  | some r => rfl
  | none => exact foldl_set1 kw h s

theorem kinds_expectedAfter (s : State) (kw : Kw) : kinds (expectedAfter s kw) = kinds s := by
  rw [expectedAfter_eq, kinds, List.map_map]; rfl

theorem stateWF_expectedAfter (s : State) (kw : Kw) (hs : StateWF s) (hv : validKw s kw = true) :
    StateWF (expectedAfter s kw) where
  nodup := kinds_expectedAfter s kw ▸ hs.nodup
  noAll := kinds_expectedAfter s kw ▸ hs.noAll
  valid := by
    rw [expectedAfter_eq]
    intro kr hkr
    obtain ⟨kr0, hkr0, rfl⟩ := List.mem_map.mp hkr
    exact reactionAfter_valid (fun kr h => (validKw_iff.mp hv kr h).1) _ (hs.valid kr0 hkr0)

theorem seterr_valid {s : State} {kw : Kw} (h : KwWF kw) (hv : validKw s kw = true) :
    seterr s kw = some (expectedAfter s kw) := by
  rw [seterr, if_pos hv, applyKw_eq_expected s kw h]

theorem seterr_refused {s : State} {kw : Kw} (hv : validKw s kw = false) : seterr s kw = none := by
  rw [seterr, hv]; rfl

theorem reactionAfter_self {s0 : State} (h0 : StateWF s0) {kr : Kind × String} (hm : kr ∈ s0) (r : String) :
    reactionAfter s0 kr.1 r = kr.2 := by
  rw [reactionAfter, lookup_none_of_not_mem s0 "all" h0.noAll, lookup_of_mem_nodup s0 h0.nodup kr hm]; rfl

/-- `seterr(**old_state)` puts exactly the old state back, whatever reactions are in force now -/
theorem restore (s0 s1 : State) (h0 : StateWF s0) (hk : kinds s1 = kinds s0) :
    seterr s1 s0 = some s0 := by
  have hvalid : validKw s1 s0 = true :=
    validKw_iff.mpr fun kr hkr => ⟨h0.valid kr hkr, Or.inr (hk ▸ List.mem_map_of_mem hkr)⟩
  rw [seterr_valid h0.nodup hvalid, expectedAfter_eq]
  congr 1
  -- entry by entry along the two lists, whose keys agree: the reaction written is the one `s0` lists for the key
  have : ∀ t1 t0 : State, (∀ kr ∈ t0, kr ∈ s0) → kinds t1 = kinds t0 →
      t1.map (fun kr => (kr.1, reactionAfter s0 kr.1 kr.2)) = t0 := by
    intro t1
    induction t1 with
    | nil => exact fun t0 _ hk => (List.map_eq_nil_iff.mp hk.symm).symm
    | cons a t1 ih =>
      intro t0 hsub hk
      cases t0 with
      | nil => cases hk
      | cons b t0 =>
        injection hk with hab htl
        rw [List.map_cons, ih t0 (fun kr h => hsub kr (List.mem_cons_of_mem _ h)) htl, show a.1 = b.1 from hab,
          reactionAfter_self h0 (hsub b List.mem_cons_self)]
  exact this s1 s0 (fun _ h => h) hk

/-! ### equations for `firstTriggered`, `react`, `setCall` and `exec` -/

theorem firstTriggered_nil (s : State) : firstTriggered s [] = none :=
  List.find?_eq_none.mpr fun _ _ h => nomatch h

theorem firstTriggered_single_mem (s : State) (k : Kind) (hmem : k ∈ kinds s) :
    firstTriggered s [k] = some k := by
  unfold firstTriggered
  generalize kinds s = ks at hmem
  induction hmem with
  | head as => rw [List.find?_cons_of_pos]; exact List.elem_cons_self
  | tail _ _ ih =>
    rw [List.find?_cons]; split
    · next hx => cases List.mem_singleton.mp (List.contains_iff_mem.mp hx); rfl
    · exact ih

theorem firstTriggered_single_not_mem (s : State) (k : Kind) (hnm : k ∉ kinds s) :
    firstTriggered s [k] = none :=
  List.find?_eq_none.mpr fun _ hx hc => hnm (List.mem_singleton.mp (List.contains_iff_mem.mp hc) ▸ hx)

theorem react_of_first {p : Profile} {trig : List Kind} {k : Kind} (h : firstTriggered p.state trig = some k) :
    react p trig =
      ((p.calls.lookup k).getD 0, reactionEv k ((p.state.lookup k).getD "ignore") ((p.calls.lookup k).getD 0)) := by
  rw [react, h]

theorem react_of_none {p : Profile} {trig : List Kind} (h : firstTriggered p.state trig = none) :
    react p trig = (0, .quiet) := by
  rw [react, h]

theorem setCall_lookup_self (calls : List (Kind × Nat)) (k : Kind) (cb : Nat) :
    (setCall calls k cb).lookup k = some cb :=
  List.lookup_cons_self

theorem setCall_lookup_other (calls : List (Kind × Nat)) (k k' : Kind) (cb : Nat) (h : k' ≠ k) :
    (setCall calls k cb).lookup k' = calls.lookup k' := by
  rw [setCall, List.lookup_cons, beq_false_of_ne h]
  show (calls.filter _).lookup k' = _
  induction calls with
  | nil => rfl
  | cons kc rest ih =>
    obtain ⟨a, b⟩ := kc
    by_cases hak : a = k
    · rw [List.filter_cons_of_neg (by simpa using hak), ih, List.lookup_cons, beq_false_of_ne (hak ▸ h)]
    · rw [List.filter_cons_of_pos (by simpa using hak), List.lookup_cons, List.lookup_cons, ih]

theorem exec_check (trig : List Kind) (p : Profile) :
    exec (.check trig) p = (p, .check p.state (react p trig).1 (react p trig).2) := rfl

theorem exec_seq (a b : Prog) (p : Profile) :
    exec (.seq a b) p =
      if (exec a p).2.out = .normal then
        ((exec b (exec a p).1).1, .seq (exec a p).2 (some (exec b (exec a p).1).2))
      else ((exec a p).1, .seq (exec a p).2 none) := rfl

/-- `hk`: the body keeps the kinds (`exec_wf`: every well-formed body does), so the `finally: seterr(**old_state)`
is accepted and puts the old state back -/
theorem exec_errstate_valid {kw : Kw} (body : Prog) (p : Profile) (h : KwWF kw) (hv : validKw p.state kw = true)
    (hs : StateWF p.state)
    (hk : kinds (exec body { p with state := expectedAfter p.state kw }).1.state = kinds p.state) :
    exec (.errstate kw body) p =
      ({ (exec body { p with state := expectedAfter p.state kw }).1 with state := p.state },
       .errstate p.state
         (some (expectedAfter p.state kw, (exec body { p with state := expectedAfter p.state kw }).2)) p.state) := by
  rw [exec, seterr_valid h hv]
  simp only [restore p.state _ hs hk, Option.getD_some]

/-- `beq_self_eq_true` at `State`, for rewriting the `==` tests of `holds`: with the core lemma `rw` searches the
`ReflBEq` instance of `List (String × String)` again at every use, which is slow to check -/
theorem state_beq_self (s : State) : (s == s) = true := beq_iff_eq.mpr rfl

end Biom.C20
