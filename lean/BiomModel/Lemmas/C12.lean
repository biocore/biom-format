/-
  C12 — lemmas.  The kernel walk equals the histogram of the chosen positions over the entries'
  intervals (explicit loop invariant); the decidable hypotheses as propositions; the kernel over all
  vectors; then scatter and the filters of `Table.subsample`, up to what `finish` guarantees (`FinishOK`).
-/
import BiomModel.C12
import BiomModel.Lemmas.Layer

namespace Biom.C12

/-! ### insertion sort -/

theorem ins_perm (x : Nat) (l : List Nat) : (ins x l).Perm (x :: l) := by
  induction l with
  | nil => exact List.Perm.refl _
  | cons y ys ih =>
    simp only [ins]
    split
    · exact List.Perm.refl _
    · exact ((List.perm_cons y).mpr ih).trans (List.Perm.swap x y ys)

theorem isort_perm (l : List Nat) : (isort l).Perm l := by
  induction l with
  | nil => exact List.Perm.refl _
  | cons x xs ih => exact (ins_perm x (isort xs)).trans ((List.perm_cons x).mpr ih)

theorem ins_sorted (x : Nat) (l : List Nat) (h : l.Pairwise (· ≤ ·)) : (ins x l).Pairwise (· ≤ ·) := by
  induction l with
  | nil => exact List.pairwise_singleton _ _
  | cons y ys ih =>
    have hy := List.pairwise_cons.mp h
    by_cases hxy : x ≤ y
    · rw [ins, if_pos hxy]
      exact List.pairwise_cons.mpr ⟨List.forall_mem_cons.mpr ⟨hxy, fun a ha => Nat.le_trans hxy (hy.1 a ha)⟩, h⟩
    · rw [ins, if_neg hxy]
      refine List.pairwise_cons.mpr ⟨fun a ha => ?_, ih hy.2⟩
      exact List.forall_mem_cons.mpr ⟨Nat.le_of_not_le hxy, hy.1⟩ a ((ins_perm x ys).mem_iff.mp ha)

theorem isort_sorted (l : List Nat) : (isort l).Pairwise (· ≤ ·) := by
  induction l with
  | nil => exact List.Pairwise.nil
  | cons x xs ih => exact ins_sorted x _ ih

/-! ### prefix sums -/

theorem prefixSum_zero (c : List Nat) : prefixSum c 0 = 0 := rfl

theorem prefixSum_cons (x : Nat) (xs : List Nat) (j : Nat) :
    prefixSum (x :: xs) (j + 1) = x + prefixSum xs j := rfl

theorem prefixSum_succ (c : List Nat) (j : Nat) : prefixSum c (j + 1) = prefixSum c j + c.getD j 0 := by
  rw [prefixSum, List.take_add_one, List.sum_append_nat, List.getD_eq_getElem?_getD]
  cases c[j]? <;> rfl

theorem prefixSum_mono (c : List Nat) {i j : Nat} (h : i ≤ j) : prefixSum c i ≤ prefixSum c j := by
  induction h with
  | refl => exact Nat.le_refl _
  | step _ ih => exact Nat.le_trans ih (prefixSum_succ c _ ▸ Nat.le_add_right _ _)

theorem prefixSum_of_length_le (c : List Nat) {j : Nat} (h : c.length ≤ j) : prefixSum c j = c.sum := by
  rw [prefixSum, List.take_of_length_le h]

/-- position `p` lies in entry `i`'s interval -/
def inIv (c : List Nat) (i : Nat) (p : Nat) : Bool :=
  decide (prefixSum c i ≤ p) && decide (p < prefixSum c (i + 1))

theorem inIv_iff {c : List Nat} {i p : Nat} : inIv c i p = true ↔ prefixSum c i ≤ p ∧ p < prefixSum c (i + 1) := by
  simp only [inIv, Bool.and_eq_true, decide_eq_true_eq]

theorem inIv_unique (c : List Nat) {i j p : Nat} (hi : inIv c i p = true) (hj : inIv c j p = true) : i = j := by
  rw [inIv_iff] at hi hj
  -- an earlier interval ends before a later one starts
  have key : ∀ {i j : Nat}, p < prefixSum c (i + 1) → prefixSum c j ≤ p → ¬ i < j := fun h1 h2 h =>
    Nat.lt_irrefl _ (Nat.lt_of_lt_of_le h1 (Nat.le_trans (prefixSum_mono c h) h2))
  exact Nat.le_antisymm (Nat.le_of_not_lt (key hj.2 hi.1)) (Nat.le_of_not_lt (key hi.2 hj.1))

/-! ### counting -/

theorem countP_or_disjoint {β : Type} (p q : β → Bool) (l : List β) (h : ∀ x ∈ l, ¬ (p x = true ∧ q x = true)) :
    l.countP (fun x => p x || q x) = l.countP p + l.countP q := by
  induction l with
  | nil => rfl
  | cons x xs ih =>
    have hx := h x List.mem_cons_self
    rw [List.countP_cons, List.countP_cons, List.countP_cons, ih (fun y hy => h y (List.mem_cons_of_mem _ hy))]
    cases hp : p x <;> cases hq : q x
    · rfl
    · exact Nat.add_assoc ..
    · exact Nat.add_right_comm ..
    · exact absurd ⟨hp, hq⟩ hx

theorem countP_split (l : List Nat) {a b c : Nat} (hab : a ≤ b) (hbc : b ≤ c) :
    l.countP (fun p => decide (a ≤ p) && decide (p < b)) + l.countP (fun p => decide (b ≤ p) && decide (p < c)) =
      l.countP (fun p => decide (a ≤ p) && decide (p < c)) := by
  rw [← countP_or_disjoint]
  · refine List.countP_congr fun p _ => ?_
    simp only [Bool.or_eq_true, Bool.and_eq_true, decide_eq_true_eq]
    constructor
    · rintro (⟨h1, h2⟩ | ⟨h1, h2⟩)
      · exact ⟨h1, Nat.lt_of_lt_of_le h2 hbc⟩
      · exact ⟨Nat.le_trans hab h1, h2⟩
    · intro ⟨h1, h2⟩
      exact (Nat.lt_or_ge p b).imp (fun h => ⟨h1, h⟩) (fun h => ⟨h, h2⟩)
  · intro p _ h
    simp only [Bool.and_eq_true, decide_eq_true_eq] at h
    exact Nat.lt_irrefl _ (Nat.lt_of_lt_of_le h.1.2 h.2.1)

theorem countP_contains_comm {l r : List Nat} (hl : l.Nodup) (hr : r.Nodup) :
    l.countP r.contains = r.countP l.contains := by
  induction l with
  | nil => exact (List.countP_eq_zero.mpr fun _ _ => Bool.false_ne_true).symm
  | cons x xs ih =>
    rw [List.nodup_cons] at hl
    have : r.countP (x :: xs).contains = r.countP (fun y => y == x || xs.contains y) :=
      List.countP_congr fun y _ => by rw [List.contains_cons]
    rw [List.countP_cons, ih hl.2, this, countP_or_disjoint, ← List.count_eq_countP, hr.count, Nat.add_comm]
    · simp only [List.contains_iff_mem]
    · intro y _ h
      rw [beq_iff_eq, List.contains_iff_mem] at h
      exact hl.1 (h.1 ▸ h.2)

theorem countP_interval_units (l : List Nat) (hn : l.Nodup) (a c : Nat) :
    l.countP (fun p => decide (a ≤ p) && decide (p < a + c)) =
      (List.range c).countP (fun u => l.contains (a + u)) := by
  calc l.countP (fun p => decide (a ≤ p) && decide (p < a + c))
      = l.countP (List.range' a c).contains := List.countP_congr fun p _ => by
        rw [List.contains_iff_mem, List.mem_range'_1, Bool.and_eq_true, decide_eq_true_eq, decide_eq_true_eq]
    _ = (List.range' a c).countP l.contains := countP_contains_comm hn List.nodup_range'
    _ = _ := by rw [List.range'_eq_map_range, List.countP_map]; rfl

/-! ### the histogram -/

theorem histFrom_length (b : Nat) (cs ch : List Nat) : (histFrom b cs ch).length = cs.length := by
  induction cs generalizing b with
  | nil => rfl
  | cons c cs ih => exact congrArg (· + 1) (ih _)

theorem hist_length (cs ch : List Nat) : (hist cs ch).length = cs.length := histFrom_length 0 cs ch

theorem histFrom_getElem? (b : Nat) (cs ch : List Nat) (j : Nat) (hj : j < cs.length) :
    (histFrom b cs ch)[j]? =
      some (ch.countP (fun p => decide (b + prefixSum cs j ≤ p) && decide (p < b + prefixSum cs (j + 1)))) := by
  induction cs generalizing b j with
  | nil => exact absurd hj (Nat.not_lt_zero _)
  | cons c cs ih =>
    cases j with
    | zero => rfl
    | succ j =>
      rw [histFrom, List.getElem?_cons_succ, ih (b + c) j (Nat.lt_of_succ_lt_succ hj)]
      exact congrArg some (List.countP_congr fun p _ => by
        simp only [Bool.and_eq_true, decide_eq_true_eq]
        rw [prefixSum_cons, prefixSum_cons, Nat.add_assoc, Nat.add_assoc])

theorem hist_getElem? (cs ch : List Nat) (j : Nat) (hj : j < cs.length) :
    (hist cs ch)[j]? = some (ch.countP (inIv cs j)) := by
  rw [hist, histFrom_getElem? 0 cs ch j hj]
  simp only [Nat.zero_add]
  rfl

theorem histFrom_perm (b : Nat) (cs : List Nat) {ch ch' : List Nat} (h : ch.Perm ch') :
    histFrom b cs ch = histFrom b cs ch' := by
  induction cs generalizing b with
  | nil => rfl
  | cons c cs ih => rw [histFrom, histFrom, ih, h.countP_eq]

theorem histFrom_sum (b : Nat) (cs ch : List Nat) :
    (histFrom b cs ch).sum = ch.countP (fun p => decide (b ≤ p) && decide (p < b + cs.sum)) := by
  induction cs generalizing b with
  | nil =>
    refine (List.countP_eq_zero.mpr fun p _ h => ?_).symm
    rw [Bool.and_eq_true, decide_eq_true_eq, decide_eq_true_eq] at h
    exact Nat.lt_irrefl _ (Nat.lt_of_le_of_lt h.1 h.2)
  | cons c cs ih =>
    rw [histFrom, List.sum_cons, List.sum_cons, ← Nat.add_assoc, ih,
      countP_split ch (Nat.le_add_right ..) (Nat.le_add_right ..)]

theorem hist_sum (cs ch : List Nat) (h : ∀ p ∈ ch, p < cs.sum) : (hist cs ch).sum = ch.length := by
  rw [hist, histFrom_sum, List.countP_eq_length]
  intro p hp
  simp only [Nat.zero_le, Nat.zero_add, h p hp, decide_true, Bool.and_self]

/-- distinct positions in an interval are at most its length -/
theorem hist_le (cs ch : List Nat) (hn : ch.Nodup) (j : Nat) : (hist cs ch).getD j 0 ≤ cs.getD j 0 := by
  rw [List.getD_eq_getElem?_getD]
  by_cases hj : j < cs.length
  · rw [hist_getElem? cs ch j hj, Option.getD_some]
    have := countP_interval_units ch hn (prefixSum cs j) (cs.getD j 0)
    rw [← prefixSum_succ] at this
    calc ch.countP (inIv cs j) = (List.range (cs.getD j 0)).countP _ := this
      _ ≤ (List.range (cs.getD j 0)).length := List.countP_le_length
      _ = _ := List.length_range
  · rw [List.getElem?_eq_none (by rw [hist_length]; omega)]
    exact Nat.zero_le _

/-! ### the tail clean-up -/

theorem zeroTail_length (out : List Nat) {k : Nat} (h : k ≤ out.length) : (zeroTail out k).length = out.length := by
  rw [zeroTail, List.length_append, List.length_take, List.length_replicate, Nat.min_eq_left h,
    Nat.add_sub_cancel' h]

theorem zeroTail_getElem? (out : List Nat) (k i : Nat) (hi : i < out.length) :
    (zeroTail out k)[i]? = some (if i < k then out.getD i 0 else 0) := by
  unfold zeroTail
  by_cases h : i < k
  · rw [if_pos h, List.getElem?_append_left (List.length_take ▸ Nat.lt_min.mpr ⟨h, hi⟩),
      List.getElem?_take_of_lt h, List.getD_eq_getElem?_getD, List.getElem?_eq_getElem hi, Option.getD_some]
  · have hk : k ≤ i := Nat.le_of_not_lt h
    have hl : (out.take k).length = k := List.length_take ▸ Nat.min_eq_left (Nat.le_trans hk (Nat.le_of_lt hi))
    rw [if_neg h, List.getElem?_append_right (Nat.le_trans (Nat.le_of_eq hl) hk), List.getElem?_replicate, hl,
      if_pos (Nat.sub_lt_sub_right hk hi)]

/-! ### the loop invariant -/

/-- what the vector will be if the loop stops now: written entries, the running count, zeros -/
def fin (w : W) (i : Nat) : Nat :=
  if i < w.el then w.out.getD i 0 else if i = w.el then w.elCnt else 0

/-- the state after one round of the `while` -/
def W.next (c : List Nat) (w : W) : W :=
  { out := w.out.set w.el w.elCnt, el := w.el + 1, countEl := w.countEl + w.countRem,
    countRem := c.getD (w.el + 1) 0, elCnt := 0 }

theorem walkSkip_next {c : List Nat} {p fuel : Nat} {w : W} (hel : w.el + 1 < c.length)
    (hout : w.out.length = c.length) (hc : p - w.countEl ≥ w.countRem) :
    walkSkip c p (fuel + 1) w = walkSkip c p fuel (w.next c) := by
  rw [walkSkip, if_pos hc, putE_ok _ _ _ (hout ▸ Nat.lt_of_succ_lt hel), getE_getD c _ 0 hel]
  rfl

theorem fin_next (c : List Nat) (w : W) (h : w.el < w.out.length) (i : Nat) : fin (w.next c) i = fin w i := by
  simp only [fin, W.next, List.getD_eq_getElem?_getD]
  rcases Nat.lt_trichotomy i w.el with hi | rfl | hi
  · rw [if_pos (Nat.lt_succ_of_lt hi), if_pos hi, List.getElem?_set_ne (Nat.ne_of_gt hi)]
  · rw [if_pos (Nat.lt_succ_self _), if_neg (Nat.lt_irrefl _), if_pos rfl, List.getElem?_set_self h, Option.getD_some]
  · rw [if_neg (Nat.not_lt.mpr hi), ite_self, if_neg (Nat.lt_asymm hi), if_neg (Nat.ne_of_gt hi)]

/-- `el` in range, `data` keeps its length, `count_el + count_rem` is the end of entry `el`'s
interval and `count_el` is not before its start; stopping now would leave the histogram of the
positions `done` walked so far -/
structure Inv (c done : List Nat) (w : W) : Prop where
  elLt : w.el < c.length
  outLen : w.out.length = c.length
  remEq : w.countEl + w.countRem = prefixSum c (w.el + 1)
  elLe : prefixSum c w.el ≤ w.countEl
  finEq : ∀ i, fin w i = done.countP (inIv c i)

theorem Inv.next {c done : List Nat} {w : W} {p : Nat} (hI : Inv c done w) (hp : p < c.sum)
    (hc : prefixSum c (w.el + 1) ≤ p) : Inv c done (w.next c) := by
  have hlt : w.el + 1 < c.length :=
    Nat.lt_of_not_ge fun hn => Nat.not_le.mpr hp (prefixSum_of_length_le c hn ▸ hc)
  refine ⟨hlt, (List.length_set ..).trans hI.outLen, ?_, Nat.le_of_eq hI.remEq.symm, fun i => ?_⟩
  · show w.countEl + w.countRem + c.getD (w.el + 1) 0 = prefixSum c (w.el + 1 + 1)
    rw [prefixSum_succ c (w.el + 1), hI.remEq]
  · rw [fin_next c w (hI.outLen ▸ hI.elLt), hI.finEq]

/-- the `while` stops in the entry whose interval holds `p` -/
theorem walkSkip_spec (c done : List Nat) (p : Nat) (hp : p < c.sum) :
    ∀ (fuel : Nat) (w : W), Inv c done w → w.countEl ≤ p → c.length ≤ w.el + fuel →
      ∃ w1, walkSkip c p fuel w = .ok w1 ∧ Inv c done w1 ∧ w1.countEl ≤ p ∧ p - w1.countEl < w1.countRem := by
  intro fuel
  induction fuel with
  | zero => intro w hI _ hf; exact absurd hI.elLt (Nat.not_lt.mpr hf)
  | succ fuel ih =>
    intro w hI hle hf
    by_cases hc : p - w.countEl ≥ w.countRem
    · have hle' : w.countEl + w.countRem ≤ p := Nat.add_le_of_le_sub' hle hc
      have hI' := hI.next hp (hI.remEq ▸ hle')
      rw [walkSkip_next hI'.elLt hI.outLen hc]
      exact ih _ hI' hle' (Nat.add_right_comm .. ▸ hf)
    · exact ⟨w, by rw [walkSkip, if_neg hc], hI, hle, Nat.lt_of_not_ge hc⟩

theorem walkStep_spec (c done : List Nat) (p : Nat) (hp : p < c.sum) (w : W) (hI : Inv c done w)
    (hle : w.countEl ≤ p) : ∃ w2, walkStep c w p = .ok w2 ∧ Inv c (done ++ [p]) w2 ∧ w2.countEl = p := by
  obtain ⟨w1, h1, h2, h4, h5⟩ := walkSkip_spec c done p hp (c.length + 1) w hI hle
    (Nat.le_trans (Nat.le_succ _) (Nat.le_add_left ..))
  have hrem := h2.remEq
  have hin : inIv c w1.el p = true := inIv_iff.mpr ⟨Nat.le_trans h2.elLe h4, hrem ▸ (Nat.sub_lt_iff_lt_add' h4).mp h5⟩
  rw [walkStep, h1]
  refine ⟨_, rfl, ⟨h2.elLt, h2.outLen, ?_, Nat.le_trans h2.elLe h4, fun i => ?_⟩, rfl⟩
  · calc p + (w1.countRem - (p - w1.countEl))
        = w1.countEl + (p - w1.countEl) + (w1.countRem - (p - w1.countEl)) := by rw [Nat.add_sub_cancel' h4]
      _ = w1.countEl + w1.countRem := by rw [Nat.add_assoc, Nat.add_sub_cancel' (Nat.le_of_lt h5)]
      _ = prefixSum c (w1.el + 1) := hrem
  · rw [List.countP_append, List.countP_singleton, ← h2.finEq i]
    simp only [fin]
    by_cases h : i = w1.el
    · rw [h, if_pos hin, if_neg (Nat.lt_irrefl _), if_neg (Nat.lt_irrefl _), if_pos rfl, if_pos rfl]
    · rw [if_neg (fun hv => h (inIv_unique c hv hin)), if_neg h, if_neg h, Nat.add_zero]

theorem walkLoop_spec (c : List Nat) (ch : List Nat) :
    ∀ (done : List Nat) (w : W), Inv c done w → (w.countEl :: ch).Pairwise (· ≤ ·) → (∀ p ∈ ch, p < c.sum) →
      ∃ w', walkLoop c ch w = .ok w' ∧ Inv c (done ++ ch) w' := by
  induction ch with
  | nil => intro done w hI _ _; exact ⟨w, rfl, by rwa [List.append_nil]⟩
  | cons p ps ih =>
    intro done w hI hs hb
    rw [List.pairwise_cons] at hs
    obtain ⟨w2, h1, h2, h3⟩ := walkStep_spec c done p (hb p List.mem_cons_self) w hI (hs.1 p List.mem_cons_self)
    obtain ⟨w', h5, h6⟩ := ih _ w2 h2 (h3 ▸ hs.2) (fun q hq => hb q (List.mem_cons_of_mem _ hq))
    exact ⟨w', by rw [walkLoop, h1]; exact h5, by rwa [List.append_cons]⟩

theorem Inv.result {c done : List Nat} {w : W} (hI : Inv c done w) :
    zeroTail (w.out.set w.el w.elCnt) (w.el + 1) = hist c done := by
  have hel : w.el < w.out.length := hI.outLen ▸ hI.elLt
  have hset : (w.out.set w.el w.elCnt).length = c.length := (List.length_set ..).trans hI.outLen
  apply List.ext_getElem?
  intro i
  by_cases hi : i < c.length
  · -- entry `i` of the cleaned-up vector is `fin (w.next c) i`, written out
    rw [zeroTail_getElem? _ _ _ (hset ▸ hi), hist_getElem? c done i hi, ← hI.finEq, ← fin_next c w hel]
    show _ = some (if i < w.el + 1 then _ else if i = w.el + 1 then 0 else 0)
    rw [ite_self]
    rfl
  · have hi := Nat.le_of_not_lt hi
    rw [List.getElem?_eq_none (by rw [zeroTail_length _ (hset ▸ hI.elLt), hset]; exact hi),
      List.getElem?_eq_none (by rw [hist_length]; exact hi)]

/-- **The walk is the histogram**: for sorted positions all below the vector's total, the
running-offset loop with its four counters — every read and write bounds-checked — returns, for
each entry, the number of chosen positions in that entry's interval `[prefix j, prefix (j+1))`. -/
theorem walk_hist (counts chosen : List Nat) (hne : counts ≠ [])
    (hs : chosen.Pairwise (· ≤ ·)) (hb : ∀ p ∈ chosen, p < counts.sum) :
    walk counts chosen = .ok (hist counts chosen) := by
  have hlen : 0 < counts.length := List.length_pos_iff.mpr hne
  have hI0 : Inv counts [] { out := counts, el := 0, countEl := 0, countRem := counts.getD 0 0, elCnt := 0 } :=
    ⟨hlen, rfl, by rw [prefixSum_succ]; rfl, Nat.le_refl _, fun i => by
      simp only [fin, Nat.not_lt_zero, if_false, ite_self, List.countP_nil]⟩
  obtain ⟨w', h1, (h2 : Inv counts chosen w')⟩ := walkLoop_spec counts chosen [] _ hI0
    (List.pairwise_cons.mpr ⟨fun _ _ => Nat.zero_le _, hs⟩) hb
  simp only [walk, getE_getD counts 0 0 hlen, h1, putE_ok _ _ _ (h2.outLen ▸ h2.elLt), h2.result]

/-! ### masks and lookups by ID -/

section Lists
variable {β γ : Type}

theorem filterMask_map (f : β → γ) (xs : List β) (k : List Bool) :
    filterMask (xs.map f) k = (filterMask xs k).map f := (Biom.filterMask_map f xs k).symm

theorem map_lookupBy_filterMask (ids : List Id) (xs : List β) (k : List Bool) (d : β) (hn : ids.Nodup)
    (hl : ids.length = xs.length) :
    (filterMask ids k).map (fun id => (lookupBy ids xs id).getD d) = filterMask xs k := by
  rw [Biom.filterMask_map, map_lookupBy_getD ids xs d hn hl]

theorem filterMask_ids_by_value (p : β → Bool) (ids : List Id) (xs : List β) (d : β) (hn : ids.Nodup)
    (hl : ids.length = xs.length) :
    filterMask ids (xs.map p) = ids.filter (fun id => p ((lookupBy ids xs id).getD d)) := by
  have h := congrArg (List.map p) (map_lookupBy_getD ids xs d hn hl)
  rw [List.map_map] at h
  rw [← h]
  exact filterMask_map_self ids _

end Lists

/-! ### stored entries → dense vector -/

theorem lookupN_nil_left (vals : List Nat) (j : Nat) : lookupN [] vals j = 0 := by cases vals <;> rfl

theorem lookupN_nil_right (idx : List Nat) (j : Nat) : lookupN idx [] j = 0 := by cases idx <;> rfl

theorem lookupN_cons (i : Nat) (is : List Nat) (v : Nat) (vs : List Nat) (j : Nat) :
    lookupN (i :: is) (v :: vs) j = if i = j then v else lookupN is vs j := rfl

theorem lookupN_not_mem (idx vals : List Nat) (j : Nat) (h : j ∉ idx) : lookupN idx vals j = 0 := by
  induction idx generalizing vals with
  | nil => exact lookupN_nil_left _ _
  | cons i is ih =>
    cases vals with
    | nil => rfl
    | cons v vs =>
      rw [lookupN_cons, if_neg fun (he : i = j) => h (he ▸ List.mem_cons_self)]
      exact ih vs fun hm => h (List.mem_cons_of_mem _ hm)

theorem elimZeros_cons (i : Nat) (is : List Nat) (v : Nat) (vs : List Nat) :
    elimZeros (i :: is) (v :: vs) =
      if v = 0 then elimZeros is vs else (i :: (elimZeros is vs).1, v :: (elimZeros is vs).2) := rfl

theorem lookupN_elimZeros (idx vals : List Nat) (j : Nat) (hn : idx.Nodup) :
    lookupN (elimZeros idx vals).1 (elimZeros idx vals).2 j = lookupN idx vals j := by
  induction idx generalizing vals with
  | nil => cases vals <;> rfl
  | cons i is ih =>
    rw [List.nodup_cons] at hn
    cases vals with
    | nil => rfl
    | cons v vs =>
      rw [elimZeros_cons, lookupN_cons]
      by_cases hv : v = 0
      · -- the dropped entry read 0, as does an index that is not stored
        subst hv
        rw [if_pos rfl, ih vs hn.2]
        by_cases hij : i = j
        · subst hij; rw [if_pos rfl, lookupN_not_mem is vs i hn.1]
        · rw [if_neg hij]
      · rw [if_neg hv, lookupN_cons, ih vs hn.2]

theorem scatter_elimZeros (m : Nat) (idx vals : List Nat) (hn : idx.Nodup) :
    scatter m (elimZeros idx vals).1 (elimZeros idx vals).2 = scatter m idx vals := by
  unfold scatter
  apply List.map_congr_left
  intro j _
  exact lookupN_elimZeros idx vals j hn

theorem scatter_length (m : Nat) (idx vals : List Nat) : (scatter m idx vals).length = m := by
  rw [scatter, List.length_map, List.length_range]

theorem scatter_getD (m : Nat) (idx vals : List Nat) (j : Nat) :
    (scatter m idx vals).getD j 0 = if j < m then lookupN idx vals j else 0 := by
  rw [scatter, List.getD_eq_getElem?_getD, List.getElem?_map]
  by_cases h : j < m
  · rw [if_pos h, List.getElem?_range h]; rfl
  · rw [if_neg h, List.getElem?_eq_none (List.length_range ▸ Nat.le_of_not_lt h)]; rfl

theorem sum_map_range_point (m i v : Nat) (f : Nat → Nat) (hi : i < m) (hf : f i = 0) :
    ((List.range m).map (fun j => if i = j then v else f j)).sum = v + ((List.range m).map f).sum := by
  induction m with
  | zero => exact absurd hi (Nat.not_lt_zero _)
  | succ m ih =>
    rw [List.range_succ, List.map_append, List.map_append, List.sum_append_nat, List.sum_append_nat, ← Nat.add_assoc]
    by_cases him : i = m
    · subst him
      rw [List.map_congr_left (g := f) fun j hj => if_neg (Nat.ne_of_gt (List.mem_range.mp hj))]
      simp only [List.map_cons, List.map_nil, List.sum_cons, List.sum_nil, if_true, hf]
      exact Nat.add_comm _ _
    · rw [ih (Nat.lt_of_le_of_ne (Nat.le_of_lt_succ hi) him)]
      simp only [List.map_cons, List.map_nil, if_neg him]

theorem sum_map_zero {β : Type} (l : List β) : (l.map (fun _ => 0)).sum = 0 := by
  rw [List.map_const', List.sum_replicate_nat, Nat.mul_zero]

theorem getD_map_zero (v : List Nat) (k : Nat) : (v.map (fun _ => 0)).getD k 0 = 0 := by
  rw [List.getD_eq_getElem?_getD, List.getElem?_map]
  cases v[k]? <;> rfl

theorem scatter_sum {m : Nat} {idx vals : List Nat} (hn : idx.Nodup) (hr : ∀ i ∈ idx, i < m)
    (hl : idx.length = vals.length) : (scatter m idx vals).sum = vals.sum := by
  induction idx generalizing vals with
  | nil =>
    rw [List.length_eq_zero_iff.mp hl.symm]
    exact sum_map_zero (List.range m)
  | cons i is ih =>
    rw [List.nodup_cons] at hn
    cases vals with
    | nil => cases hl
    | cons v vs =>
      have := ih hn.2 (fun a ha => hr a (List.mem_cons_of_mem _ ha)) (Nat.succ.inj hl)
      rw [scatter] at this ⊢
      rw [List.sum_cons, ← this]
      exact sum_map_range_point m i v _ (hr i List.mem_cons_self) (lookupN_not_mem is vs i hn.1)

theorem lookupN_rel (R : Nat → Nat → Prop) (h0 : R 0 0) (idx a b : List Nat) (hl : a.length = b.length)
    (h : ∀ k, R (a.getD k 0) (b.getD k 0)) (j : Nat) : R (lookupN idx a j) (lookupN idx b j) := by
  induction idx generalizing a b with
  | nil => rw [lookupN_nil_left, lookupN_nil_left]; exact h0
  | cons i is ih =>
    cases a with
    | nil => rw [List.length_eq_zero_iff.mp hl.symm]; exact h0
    | cons x a =>
      cases b with
      | nil => cases hl
      | cons y b =>
        rw [lookupN_cons, lookupN_cons]
        by_cases hij : i = j
        · rw [if_pos hij, if_pos hij]; exact h 0
        · rw [if_neg hij, if_neg hij]
          exact ih a b (Nat.succ.inj hl) (fun k => h (k + 1))

theorem scatter_rel (R : Nat → Nat → Prop) (h0 : R 0 0) (m : Nat) (idx a b : List Nat) (hl : a.length = b.length)
    (h : ∀ k, R (a.getD k 0) (b.getD k 0)) (j : Nat) :
    R ((scatter m idx a).getD j 0) ((scatter m idx b).getD j 0) := by
  rw [scatter_getD, scatter_getD]
  split
  · exact lookupN_rel R h0 idx a b hl h j
  · exact h0

/-! ### totals along the other axis -/

theorem colSums_nil (m : Nat) : colSums m [] = List.replicate m 0 := rfl
theorem colSums_cons (m : Nat) (v : List Nat) (d : List (List Nat)) :
    colSums m (v :: d) = addV v (colSums m d) := rfl

theorem colSums_length (m : Nat) (d : List (List Nat)) (h : ∀ v ∈ d, v.length = m) : (colSums m d).length = m := by
  induction d with
  | nil => exact List.length_replicate
  | cons v d ih =>
    rw [colSums_cons, addV, List.length_zipWith, ih (fun u hu => h u (List.mem_cons_of_mem _ hu)),
      h v List.mem_cons_self, Nat.min_self]

theorem addV_getD (a b : List Nat) (h : a.length = b.length) (j : Nat) :
    (addV a b).getD j 0 = a.getD j 0 + b.getD j 0 := by
  induction a generalizing b j with
  | nil => rw [List.length_eq_zero_iff.mp h.symm]; rfl
  | cons x a ih =>
    cases b with
    | nil => cases h
    | cons y b =>
      cases j with
      | zero => rfl
      | succ j => exact ih b (Nat.succ.inj h) j

theorem row_le_colSums (m : Nat) (d : List (List Nat)) (h : ∀ u ∈ d, u.length = m) (v : List Nat) (hv : v ∈ d)
    (j : Nat) : v.getD j 0 ≤ (colSums m d).getD j 0 := by
  induction d with
  | nil => cases hv
  | cons u d ih =>
    have hd : ∀ w ∈ d, w.length = m := fun w hw => h w (List.mem_cons_of_mem _ hw)
    rw [colSums_cons, addV_getD u (colSums m d) (by rw [colSums_length m d hd, h u List.mem_cons_self])]
    rcases List.mem_cons.mp hv with rfl | hv
    · exact Nat.le_add_right _ _
    · exact Nat.le_trans (ih hd hv) (Nat.le_add_left _ _)

theorem sum_filterMask_of_le (v c : List Nat) (hl : v.length = c.length) (h : ∀ j, v.getD j 0 ≤ c.getD j 0) :
    (filterMask v (c.map (fun s => decide (0 < s)))).sum = v.sum := by
  induction v generalizing c with
  | nil => rfl
  | cons x v ih =>
    cases c with
    | nil => cases hl
    | cons y c =>
      have h0 : x ≤ y := h 0
      have ht := ih c (Nat.succ.inj hl) (fun j => h (j + 1))
      rw [List.map_cons, filterMask_cons]
      by_cases hy : 0 < y
      · rw [decide_eq_true hy, if_pos rfl, List.sum_cons, List.sum_cons, ht]
      · rw [decide_eq_false hy, if_neg Bool.false_ne_true, ht, List.sum_cons,
          Nat.le_zero.mp (Nat.le_trans h0 (Nat.le_of_not_lt hy)), Nat.zero_add]

theorem filterMask_replicate (m : Nat) (x : Nat) (k : List Bool) :
    filterMask (List.replicate m x) k = List.replicate (filterMask (List.replicate m x) k).length x := by
  rw [List.eq_replicate_iff]
  refine ⟨rfl, ?_⟩
  intro b hb
  exact (List.mem_replicate.mp (mem_filterMask _ _ _ hb)).2

theorem colSums_filterMask (m m' : Nat) (d : List (List Nat)) (k : List Bool)
    (hm' : (filterMask (List.replicate m 0) k).length = m') :
    colSums m' (d.map (fun v => filterMask v k)) = filterMask (colSums m d) k := by
  induction d with
  | nil => rw [List.map_nil, colSums_nil, colSums_nil, filterMask_replicate, hm']
  | cons v d ih =>
    rw [List.map_cons, colSums_cons, colSums_cons, ih, addV, addV, filterMask_zipWith]

theorem all_pos_filterMask_self (xs : List Nat) :
    (filterMask xs (xs.map (fun s => decide (0 < s)))).all (fun s => decide (0 < s)) = true := by
  rw [filterMask_map_self, List.all_eq_true]
  intro x hx
  exact (List.mem_filter.mp hx).2

/-! ### lists related position by position -/

section Positionwise
variable {α β γ : Type}

theorem rel_cons {P : α → β → Prop} {a : α} {b : β} {as : List α} {bs : List β} (h : P a b)
    (ht : ∀ (i : Nat) (x : α) (y : β), as[i]? = some x → bs[i]? = some y → P x y) :
    ∀ (i : Nat) (x : α) (y : β), (a :: as)[i]? = some x → (b :: bs)[i]? = some y → P x y
  | 0, _, _, hx, hy => Option.some.inj hx ▸ Option.some.inj hy ▸ h
  | i + 1, x, y, hx, hy => ht i x y hx hy

theorem exists_partner {as : List α} {bs : List β} (hl : as.length = bs.length) {b : β} (hb : b ∈ bs) :
    ∃ (i : Nat) (a : α), as[i]? = some a ∧ bs[i]? = some b := by
  obtain ⟨i, hi⟩ := List.mem_iff_getElem?.mp hb
  have hil : i < as.length := hl ▸ (List.getElem?_eq_some_iff.mp hi).1
  exact ⟨i, as[i], List.getElem?_eq_getElem hil, hi⟩

theorem map_eq_map_of_positionwise {as : List α} {bs : List β} (f : α → γ) (g : β → γ) (hl : as.length = bs.length)
    (h : ∀ (i : Nat) (a : α) (b : β), as[i]? = some a → bs[i]? = some b → f a = g b) : as.map f = bs.map g := by
  apply List.ext_getElem (by rw [List.length_map, List.length_map, hl])
  intro i h1 h2
  rw [List.length_map] at h1 h2
  rw [List.getElem_map, List.getElem_map]
  exact h i _ _ (List.getElem?_eq_getElem h1) (List.getElem?_eq_getElem h2)

end Positionwise

/-! ### the hypotheses, spelt out -/

theorem nodupB_iff {β : Type} [DecidableEq β] (l : List β) : nodupB l = true ↔ l.Nodup := by
  induction l with
  | nil => simp [nodupB]
  | cons x xs ih => simp [nodupB, ih, List.nodup_cons]

theorem viewWF_iff (t : View) : viewWF t = true ↔
    (t.vecs.length = t.ids.length ∧ (∀ v ∈ t.vecs, v.length = t.oids.length)) ∧ t.ids.Nodup ∧ t.oids.Nodup := by
  simp [viewWF, View.wfb, nodupB_iff, and_assoc]

theorem lvecOK_iff {m : Nat} {v : List Nat} {l : LVec} : lvecOK m v l = true ↔
    l.1.Nodup ∧ (∀ i ∈ l.1, i < m) ∧ l.1.length = l.2.length ∧ scatter m l.1 l.2 = v := by
  simp only [lvecOK, Bool.and_eq_true, beq_iff_eq, List.all_eq_true, decide_eq_true_eq, nodupB_iff, and_assoc]

theorem layOK_iff {t : View} {lay : Lay} : layOK t lay = true ↔
    lay.length = t.vecs.length ∧ ∀ (i : Nat) (v : List Nat) (l : LVec),
      t.vecs[i]? = some v → lay[i]? = some l → lvecOK t.oids.length v l = true := by
  simp only [layOK, Bool.and_eq_true, beq_iff_eq, List.all_eq_true]
  refine and_congr_right fun _ => ⟨fun h i v l hv hl => ?_, fun h vl hvl => ?_⟩
  · exact h (v, l) (List.mem_of_getElem? (List.getElem?_zip_eq_some.mpr ⟨hv, hl⟩))
  · obtain ⟨i, hi⟩ := List.mem_iff_getElem?.mp hvl
    rw [List.getElem?_zip_eq_some] at hi
    exact h i vl.1 vl.2 hi.1 hi.2

theorem lay_pos_of_layOK (t : View) (lay : Lay) (hlay : layOK t lay = true) (hp : ∀ v ∈ t.vecs, 0 < v.sum) :
    ∀ l ∈ lay, 0 < l.2.sum := by
  intro l hl
  obtain ⟨hll, hlv⟩ := layOK_iff.mp hlay
  obtain ⟨i, v, hv, hi⟩ := exists_partner (as := t.vecs) hll.symm hl
  obtain ⟨hnd, hr, hlen, h⟩ := lvecOK_iff.mp (hlv i v l hv hi)
  exact scatter_sum hnd hr hlen ▸ h ▸ hp v (List.mem_of_getElem? hv)

/-! ### the kernel over all vectors -/

/-- the kernel sorts the generator's answer before the walk; the histogram does not depend on the order -/
theorem subsampleVec_hist (n : Nat) (counts chosen : List Nat) (hne : counts ≠ []) (hl : chosen.length = n)
    (hb : ∀ p ∈ chosen, p < counts.sum) : subsampleVec n counts chosen = .ok (hist counts chosen) := by
  have hp := isort_perm chosen
  have hlen : (isort chosen).length = n := hp.length_eq.trans hl
  unfold subsampleVec
  simp only [hlen, Nat.lt_irrefl, if_false]
  rw [List.take_of_length_le (Nat.le_of_eq hlen),
    walk_hist counts _ hne (isort_sorted chosen) fun p hp' => hb p (hp.mem_iff.mp hp'),
    hist, hist, histFrom_perm 0 counts hp]

/-- what the kernel leaves (`o`) of one vector `v`, without replacement -/
def WithoutOK (n : Nat) (v o : List Nat) : Prop :=
  o.length = v.length ∧ (v.sum < n → o.sum = 0) ∧ (n ≤ v.sum → o.sum = n) ∧ ∀ k, o.getD k 0 ≤ v.getD k 0

theorem kernelWithout_spec (n : Nat) (hn : 1 ≤ n) :
    ∀ (vecs ch : List (List Nat)), choicesOK n vecs ch = true →
      ∃ outs, kernelWithout n vecs ch = .ok outs ∧ outs.length = vecs.length ∧
        ∀ (i : Nat) (v o : List Nat), vecs[i]? = some v → outs[i]? = some o → WithoutOK n v o := by
  intro vecs
  induction vecs with
  | nil => intro ch _; exact ⟨[], rfl, rfl, fun i v o hv => nomatch hv⟩
  | cons v vs ih =>
    intro ch hch
    unfold choicesOK at hch
    unfold kernelWithout
    by_cases hv : v.sum < n
    · rw [if_pos hv] at hch ⊢
      obtain ⟨outs, h1, h2, h3⟩ := ih ch hch
      rw [h1]
      exact ⟨_, rfl, congrArg (· + 1) h2, rel_cons ⟨List.length_map _, fun _ => sum_map_zero v,
        fun h => absurd hv (Nat.not_lt.mpr h), fun k => by rw [getD_map_zero]; exact Nat.zero_le _⟩ h3⟩
    · rw [if_neg hv] at hch ⊢
      match ch, hch with
      | c :: cs, hch =>
        simp only [Bool.and_eq_true, beq_iff_eq, List.all_eq_true, decide_eq_true_eq] at hch
        obtain ⟨⟨⟨hnd, hlen⟩, hb⟩, hrest⟩ := hch
        have hne : v ≠ [] := by intro he; subst he; exact hv hn
        obtain ⟨outs, h1, h2, h3⟩ := ih cs hrest
        simp only [subsampleVec_hist n v c hne hlen hb, h1]
        exact ⟨_, rfl, congrArg (· + 1) h2, rel_cons ⟨hist_length _ _, fun h => absurd h hv,
          fun _ => (hist_sum v c hb).trans hlen, hist_le v c ((nodupB_iff c).mp hnd)⟩ h3⟩

/-- what the kernel leaves (`o`) of one vector `v`, with replacement -/
def WithOK (n : Nat) (v o : List Nat) : Prop :=
  o.length = v.length ∧ o.sum = n ∧ ∀ k, v.getD k 0 = 0 → o.getD k 0 = 0

theorem zip_all_support (v m : List Nat) (hl : m.length = v.length)
    (h : (v.zip m).all (fun vm => vm.1 != 0 || vm.2 == 0) = true) (k : Nat) (hk : v.getD k 0 = 0) :
    m.getD k 0 = 0 := by
  induction v generalizing m k with
  | nil => rw [List.length_eq_zero_iff.mp hl]; rfl
  | cons x v ih =>
    cases m with
    | nil => rfl
    | cons y m =>
      simp only [List.zip_cons_cons, List.all_cons, Bool.and_eq_true, Bool.or_eq_true, bne_iff_ne, ne_eq,
        beq_iff_eq] at h
      cases k with
      | zero => exact h.1.resolve_left fun hx => hx hk
      | succ k => exact ih m (Nat.succ.inj hl) h.2 k hk

theorem kernelWith_spec (n : Nat) :
    ∀ (vecs ms : List (List Nat)), multisOK n vecs ms = true → (∀ v ∈ vecs, 0 < v.sum) →
      ∃ outs, kernelWith vecs ms = .ok outs ∧ outs.length = vecs.length ∧
        ∀ (i : Nat) (v o : List Nat), vecs[i]? = some v → outs[i]? = some o → WithOK n v o := by
  intro vecs
  induction vecs with
  | nil => intro ms _ _; exact ⟨[], rfl, rfl, fun i v o hv => nomatch hv⟩
  | cons v vs ih =>
    intro ms hms hpos
    have hvl : ¬ v.length = 0 := fun he => by
      have := hpos v List.mem_cons_self
      rw [List.length_eq_zero_iff.mp he] at this
      exact Nat.lt_irrefl 0 this
    unfold multisOK at hms
    unfold kernelWith
    rw [if_neg hvl]
    match ms, hms with
    | m :: ms', hms =>
      simp only [Bool.and_eq_true, beq_iff_eq] at hms
      obtain ⟨⟨⟨hl, hs⟩, hsup⟩, hrest⟩ := hms
      obtain ⟨outs, h1, h2, h3⟩ := ih ms' hrest fun w hw => hpos w (List.mem_cons_of_mem _ hw)
      simp only [hl, ne_eq, not_true_eq_false, if_false, h1]
      exact ⟨_, rfl, congrArg (· + 1) h2, rel_cons ⟨hl, hs, zip_all_support v m hl hsup⟩ h3⟩

/-! ### the two filters -/

theorem otherFilter_ids (ids oids : List Id) (d : List (List Nat)) : (otherFilter ids oids d).ids = ids := rfl
theorem otherFilter_oids (ids oids : List Id) (d : List (List Nat)) :
    (otherFilter ids oids d).oids = filterMask oids ((colSums oids.length d).map (fun s => decide (0 < s))) := rfl
theorem otherFilter_vecs (ids oids : List Id) (d : List (List Nat)) :
    (otherFilter ids oids d).vecs =
      d.map (fun v => filterMask v ((colSums oids.length d).map (fun s => decide (0 < s)))) := rfl

theorem otherFilter_wfb {ids oids : List Id} {d : List (List Nat)} (h1 : d.length = ids.length)
    (h2 : ∀ v ∈ d, v.length = oids.length) : (otherFilter ids oids d).wfb = true := by
  simp only [View.wfb, otherFilter_ids, otherFilter_oids, otherFilter_vecs, Bool.and_eq_true, beq_iff_eq,
    List.length_map, List.all_eq_true, List.mem_map]
  refine ⟨h1, ?_⟩
  rintro _ ⟨v, hv, rfl⟩
  exact filterMask_length_eq v oids _ (h2 v hv)

theorem otherFilter_sublist (ids oids : List Id) (d : List (List Nat)) :
    (otherFilter ids oids d).oids.isSublist oids = true := by
  rw [otherFilter_oids, List.isSublist_iff_sublist]
  exact filterMask_sublist _ _

theorem otherFilter_nonzero (ids oids : List Id) (d : List (List Nat)) :
    (colSums (otherFilter ids oids d).oids.length (otherFilter ids oids d).vecs).all (fun s => decide (0 < s)) = true := by
  rw [otherFilter_oids, otherFilter_vecs,
    colSums_filterMask oids.length _ d _ (filterMask_length_eq _ oids _ List.length_replicate)]
  exact all_pos_filterMask_self _

theorem otherFilter_sums {ids oids : List Id} {d : List (List Nat)} (h2 : ∀ v ∈ d, v.length = oids.length)
    {n : Nat} (hs : ∀ v ∈ d, v.sum = n) : (otherFilter ids oids d).vecs.all (fun v => v.sum == n) = true := by
  rw [otherFilter_vecs, List.all_eq_true]
  intro w hw
  obtain ⟨v, hv, rfl⟩ := List.mem_map.mp hw
  rw [sum_filterMask_of_le v _ (by rw [colSums_length _ d h2, h2 v hv]) (row_le_colSums _ d h2 v hv)]
  exact beq_iff_eq.mpr (hs v hv)

theorem cellsRel_iff (rel : Nat → Nat → Bool) (t r : View) :
    cellsRel rel t r = true ↔
      ∀ id ∈ r.ids, ∀ o ∈ r.oids, ∃ a b, r.cell? id o = some a ∧ t.cell? id o = some b ∧ rel a b = true := by
  simp only [cellsRel, List.all_eq_true]
  refine forall_congr' fun id => forall_congr' fun _ => forall_congr' fun o => forall_congr' fun _ => ?_
  cases r.cell? id o <;> cases t.cell? id o <;> simp

theorem cell?_filters {ids oids : List Id} {g : List (List Nat)} {keep : List Bool} {id o : Id}
    (hn : ids.Nodup) (hno : oids.Nodup) (hid : id ∈ filterMask ids keep)
    (ho : o ∈ (otherFilter (filterMask ids keep) oids (filterMask g keep)).oids) :
    (otherFilter (filterMask ids keep) oids (filterMask g keep)).cell? id o =
      (lookupBy ids g id).bind (fun v => lookupBy oids v o) := by
  rw [View.cell?, View.vec?, otherFilter_vecs, otherFilter_ids, lookupBy_map, lookupBy_filterMask ids g keep id hn hid]
  cases lookupBy ids g id with
  | none => rfl
  | some v => exact lookupBy_filterMask oids v _ o hno ho

theorem lookup_cell {ids oids : List Id} {g : List (List Nat)} {id o : Id} (hid : id ∈ ids) (ho : o ∈ oids)
    (hlen : g.length = ids.length) (hrow : ∀ v ∈ g, v.length = oids.length) :
    ∃ v, g[ids.idxOf id]? = some v ∧
      (lookupBy ids g id).bind (fun v => lookupBy oids v o) = some (v.getD (oids.idxOf o) 0) := by
  have hi : ids.idxOf id < g.length := hlen ▸ List.idxOf_lt_length_iff.mpr hid
  have hv := List.getElem?_eq_getElem hi
  have hj : oids.idxOf o < g[ids.idxOf id].length :=
    hrow _ (List.mem_of_getElem? hv) ▸ List.idxOf_lt_length_iff.mpr ho
  refine ⟨_, hv, ?_⟩
  rw [lookupBy_eq_getElem? ids g id hid, hv, Option.bind_some, lookupBy_eq_getElem? oids _ o ho,
    List.getD_eq_getElem?_getD, List.getElem?_eq_getElem hj, Option.getD_some]

theorem cellsRel_filters {rel : Nat → Nat → Bool} {t : View} {dense : List (List Nat)} {keep : List Bool}
    (hwf : viewWF t = true) (hlen : dense.length = t.vecs.length)
    (hrow : ∀ v ∈ dense, v.length = t.oids.length)
    (hrel : ∀ (i : Nat) (v d : List Nat), t.vecs[i]? = some v → dense[i]? = some d →
      ∀ j, rel (d.getD j 0) (v.getD j 0) = true) :
    cellsRel rel t (otherFilter (filterMask t.ids keep) t.oids (filterMask dense keep)) = true := by
  obtain ⟨⟨hvl, hvr⟩, hnid, hnoid⟩ := (viewWF_iff t).mp hwf
  rw [cellsRel_iff]
  intro id hid o ho
  have hid' : id ∈ t.ids := mem_filterMask _ _ _ hid
  have ho' : o ∈ t.oids := mem_filterMask _ _ _ ho
  obtain ⟨d, hd, hr⟩ := lookup_cell hid' ho' (hlen.trans hvl) hrow
  obtain ⟨v, hv, ht⟩ := lookup_cell hid' ho' hvl hvr
  exact ⟨_, _, (cell?_filters hnid hnoid hid ho).trans hr, ht, hrel _ v d hv hd _⟩

/-! ### what the kernel leaves, vector by vector, and what `finish` makes of it -/

/-- what `finish` needs of one dense vector `d` the kernel left where the table had `v` -/
structure DenseOK (m n : Nat) (q : List Nat → Bool) (rel : Nat → Nat → Bool) (v d : List Nat) : Prop where
  len : d.length = m
  keep : decide (0 < d.sum) = q v
  sum : 0 < d.sum → d.sum = n
  entries : ∀ j, rel (d.getD j 0) (v.getD j 0) = true

theorem denseOK_without {m n : Nat} {v o : List Nat} {l : LVec} (hn : 1 ≤ n) (hl : lvecOK m v l = true)
    (hw : WithoutOK n l.2 o) :
    DenseOK m n (fun v => decide (n ≤ v.sum)) (fun a b => decide (a ≤ b)) v (scatter m l.1 o) := by
  obtain ⟨hnd, hr, hlen, rfl⟩ := lvecOK_iff.mp hl
  obtain ⟨w1, w2, w3, w4⟩ := hw
  have d2 := scatter_sum hnd hr (hlen.trans w1.symm)
  have d3 := scatter_sum hnd hr hlen
  have hrel := fun j => decide_eq_true (scatter_rel (· ≤ ·) (Nat.le_refl 0) m l.1 o l.2 w1 w4 j)
  rcases Nat.lt_or_ge l.2.sum n with hlt | hge
  · have h0 := w2 hlt
    refine ⟨scatter_length .., ?_, ?_, hrel⟩
    · rw [d2, d3, h0, decide_eq_false (Nat.lt_irrefl 0), decide_eq_false (Nat.not_le.mpr hlt)]
    · rw [d2, h0]
      exact fun h => absurd h (Nat.lt_irrefl 0)
  · have hs := w3 hge
    refine ⟨scatter_length .., ?_, fun _ => d2.trans hs, hrel⟩
    rw [d2, d3, hs, decide_eq_true (Nat.lt_of_lt_of_le Nat.zero_lt_one hn), decide_eq_true hge]

theorem denseOK_with {m n : Nat} {v o : List Nat} {l : LVec} (hn : 1 ≤ n) (hl : lvecOK m v l = true)
    (hpos : 0 < l.2.sum) (hw : WithOK n l.2 o) :
    DenseOK m n (fun v => decide (0 < v.sum)) (fun a b => a == 0 || decide (0 < b)) v (scatter m l.1 o) := by
  obtain ⟨hnd, hr, hlen, rfl⟩ := lvecOK_iff.mp hl
  obtain ⟨w1, w2, w3⟩ := hw
  have d2 := (scatter_sum hnd hr (hlen.trans w1.symm)).trans w2
  refine ⟨scatter_length .., ?_, fun _ => d2, ?_⟩
  · rw [d2, scatter_sum hnd hr hlen, decide_eq_true hpos,
      decide_eq_true (Nat.lt_of_lt_of_le Nat.zero_lt_one hn)]
  · refine scatter_rel (fun a b => (a == 0 || decide (0 < b)) = true) rfl m l.1 o l.2 w1 fun k => ?_
    by_cases hz : l.2.getD k 0 = 0
    · rw [w3 k hz]; rfl
    · rw [decide_eq_true (Nat.pos_of_ne_zero hz), Bool.or_true]

/-- what the property asks of a result `r` of count subsampling `t` -/
structure FinishOK (t : View) (n : Nat) (q : List Nat → Bool) (rel : Nat → Nat → Bool) (r : View) : Prop where
  shape : r.wfb = true
  oids : r.oids.isSublist t.oids = true
  nonzero : (colSums r.oids.length r.vecs).all (fun s => decide (0 < s)) = true
  ids : r.ids = t.ids.filter (fun id => q ((t.vec? id).getD []))
  sums : r.vecs.all (fun v => v.sum == n) = true
  cells : cellsRel rel t r = true

theorem finish_ok {t : View} {dense : List (List Nat)} {n : Nat} {q : List Nat → Bool} {rel : Nat → Nat → Bool}
    (hwf : viewWF t = true) (hlen : dense.length = t.vecs.length)
    (hP : ∀ (i : Nat) (v d : List Nat), t.vecs[i]? = some v → dense[i]? = some d →
      DenseOK t.oids.length n q rel v d) :
    FinishOK t n q rel (finish t dense) := by
  obtain ⟨⟨hvl, hvr⟩, hnid, hnoid⟩ := (viewWF_iff t).mp hwf
  have hD : ∀ d ∈ dense, ∃ v, DenseOK t.oids.length n q rel v d := fun d hd =>
    let ⟨i, v, hv, hd'⟩ := exists_partner hlen.symm hd
    ⟨v, hP i v d hv hd'⟩
  have hrow : ∀ d ∈ dense, d.length = t.oids.length := fun d hd => let ⟨_, h⟩ := hD d hd; h.len
  have hkeep : dense.map (fun v => decide (0 < v.sum)) = t.vecs.map q :=
    map_eq_map_of_positionwise _ _ hlen fun i d v hd hv => (hP i v d hv hd).keep
  have hrow' : ∀ v ∈ filterMask dense (dense.map (fun v => decide (0 < v.sum))), v.length = t.oids.length :=
    fun v hv => hrow v (mem_filterMask _ _ _ hv)
  refine ⟨otherFilter_wfb (filterMask_length_eq dense t.ids _ (hlen.trans hvl)) hrow',
    otherFilter_sublist _ _ _, otherFilter_nonzero _ _ _, ?_, otherFilter_sums hrow' ?_,
    cellsRel_filters hwf hlen hrow fun i v d hv hd => (hP i v d hv hd).entries⟩
  · rw [finish, otherFilter_ids, hkeep]
    exact filterMask_ids_by_value q t.ids t.vecs [] hnid hvl.symm
  · intro d hd
    rw [filterMask_map_self, List.mem_filter, decide_eq_true_eq] at hd
    let ⟨_, h⟩ := hD d hd.1
    exact h.sum hd.2

theorem finish_denseAfter {t : View} {lay : Lay} {outs : List (List Nat)} {n : Nat} {q : List Nat → Bool}
    {rel : Nat → Nat → Bool} (hwf : viewWF t = true) (hlay : layOK t lay = true)
    (hlen : outs.length = (lay.map (·.2)).length)
    (h : ∀ (i : Nat) (v o : List Nat) (l : LVec), lvecOK t.oids.length v l = true → (lay.map (·.2))[i]? = some l.2 →
      outs[i]? = some o → DenseOK t.oids.length n q rel v (scatter t.oids.length l.1 o)) :
    FinishOK t n q rel (finish t (denseAfter t.oids.length lay outs)) := by
  obtain ⟨hll, hlv⟩ := layOK_iff.mp hlay
  rw [List.length_map] at hlen
  refine finish_ok hwf ?_ fun i v d hv hd => ?_
  · rw [denseAfter, List.length_map, List.length_zip, hlen, Nat.min_self, hll]
  · simp only [denseAfter, List.getElem?_map, Option.map_eq_some_iff] at hd
    obtain ⟨⟨l, o⟩, hz, rfl⟩ := hd
    rw [List.getElem?_zip_eq_some] at hz
    have hl := hlv i v l hv hz.1
    -- `eliminate_zeros` does not show in the dense content
    rw [scatter_elimZeros _ l.1 o (lvecOK_iff.mp hl).1]
    exact h i v o l hl (by rw [List.getElem?_map, hz.1]; rfl) hz.2

/-! ### with replacement: the filter that runs before the kernel -/

theorem dropEmpty_wf {t : View} (hwf : viewWF t = true) : viewWF (dropEmpty t) = true := by
  obtain ⟨⟨hvl, hvr⟩, hnid, hnoid⟩ := (viewWF_iff t).mp hwf
  exact (viewWF_iff _).mpr ⟨⟨filterMask_length_eq t.vecs t.ids _ hvl, fun v hv => hvr v (mem_filterMask _ _ _ hv)⟩,
    nodup_filterMask _ _ hnid, hnoid⟩

theorem dropEmpty_pos (t : View) : ∀ v ∈ (dropEmpty t).vecs, 0 < v.sum := by
  intro v hv
  rw [dropEmpty, filterMask_map_self, List.mem_filter, decide_eq_true_eq] at hv
  exact hv.2

theorem dropEmpty_ids {t : View} (hwf : viewWF t = true) :
    (dropEmpty t).ids = t.ids.filter (fun id => decide (0 < t.total id)) := by
  obtain ⟨⟨hvl, _⟩, hnid, _⟩ := (viewWF_iff t).mp hwf
  rw [dropEmpty, filterMask_ids_by_value _ t.ids t.vecs [] hnid hvl.symm]
  rfl

theorem dropEmpty_vec? {t : View} (hwf : viewWF t = true) {id : Id} (h : id ∈ (dropEmpty t).ids) :
    (dropEmpty t).vec? id = t.vec? id :=
  lookupBy_filterMask t.ids t.vecs _ id ((viewWF_iff t).mp hwf).2.1 h

theorem dropEmpty_cell? {t : View} (hwf : viewWF t = true) {id : Id} (o : Id) (h : id ∈ (dropEmpty t).ids) :
    (dropEmpty t).cell? id o = t.cell? id o := by
  rw [View.cell?, dropEmpty_vec? hwf h]
  rfl

theorem FinishOK.of_dropEmpty {t r : View} {n : Nat} {rel : Nat → Nat → Bool} (hwf : viewWF t = true)
    (h : FinishOK (dropEmpty t) n (fun v => decide (0 < v.sum)) rel r) :
    FinishOK t n (fun v => decide (0 < v.sum)) rel r := by
  have hmem : ∀ id ∈ r.ids, id ∈ (dropEmpty t).ids := fun id hid => (List.mem_filter.mp (h.ids ▸ hid)).1
  refine ⟨h.shape, h.oids, h.nonzero, ?_, h.sums, ?_⟩
  · rw [h.ids, List.filter_congr fun id hid => by rw [dropEmpty_vec? hwf hid], dropEmpty_ids hwf,
      List.filter_filter]
    exact List.filter_congr fun id _ => Bool.and_self _
  · rw [cellsRel_iff]
    intro id hid o ho
    have := (cellsRel_iff ..).mp h.cells id hid o ho
    rwa [dropEmpty_cell? hwf o (hmem id hid)] at this

end Biom.C12
