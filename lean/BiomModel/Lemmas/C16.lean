/-
  C16 — helper lemmas: the comparison chains (`dataEq`, `tableEq`, `describe`) as conjunctions, the
  element-wise difference count, the stored-entry count of a layout without stored zeros,
  `ofEntries` / `eliminateZeros`, and the invariant `Reach` with the relation `Stable` between the
  representations of one table.
-/
import BiomModel.C16
import BiomModel.Lemmas.Layer

namespace Biom.C16
open Biom

variable {α : Type}

/-! ### the Boolean definitions as propositions: the comparison chains, `noStoredZerosB` -/

theorem ite_eq_iff_of_ne {γ : Type} {c : Prop} [Decidable c] {x y z : γ} (h : x ≠ z) :
    (if c then x else y) = z ↔ ¬ c ∧ y = z := by
  by_cases hc : c
  · rw [if_pos hc]; exact ⟨fun e => absurd e h, fun e => absurd hc e.1⟩
  · rw [if_neg hc]; exact ⟨fun e => ⟨hc, e⟩, fun e => e.2⟩

/-- a guard `if ¬ c then x else …`, as `__eq__` and `descriptive_equality` chain them -/
theorem guard_iff {γ : Type} {c q : Prop} [Decidable c] {x y z : γ} (h : x ≠ z) (hq : y = z ↔ q) :
    (if ¬ c then x else y) = z ↔ c ∧ q :=
  (ite_eq_iff_of_ne h).trans (and_congr Decidable.not_not hq)

theorem dataEq_iff [Zero α] [DecidableEq α] (c₁ c₂ : CS α) :
    dataEq c₁ c₂ = true ↔ c₁.nMajor = c₂.nMajor ∧ c₁.nMinor = c₂.nMinor ∧
      storedCount c₁ = storedCount c₂ ∧ neCount c₁ c₂ = 0 := by
  simp only [dataEq, ite_eq_iff_of_ne Bool.false_ne_true, not_or, ne_eq, Decidable.not_not, Nat.not_lt,
    Nat.le_zero_eq, and_true, and_assoc]

theorem tableEq_iff [Zero α] [DecidableEq α] (r₁ r₂ : Rep α) :
    tableEq r₁ r₂ = true ↔ r₁.ttype = r₂.ttype ∧ r₁.obs = r₂.obs ∧ r₁.samp = r₂.samp ∧
      r₁.omd = r₂.omd ∧ r₁.smd = r₂.smd ∧ dataEq r₁.data r₂.data = true :=
  have h := Bool.false_ne_true
  guard_iff h (guard_iff h (guard_iff h (guard_iff h (guard_iff h
    (by cases dataEq r₁.data r₂.data <;> decide)))))

theorem describe_equal_iff [Zero α] [DecidableEq α] (r₁ r₂ : Rep α) :
    describe r₁ r₂ = .equal ↔ r₁.ttype = r₂.ttype ∧ r₁.obs = r₂.obs ∧ r₁.samp = r₂.samp ∧
      r₁.omd = r₂.omd ∧ r₁.smd = r₂.smd ∧ dataEq r₁.data r₂.data = true :=
  guard_iff nofun (guard_iff nofun (guard_iff nofun (guard_iff nofun (guard_iff nofun
    (by cases dataEq r₁.data r₂.data <;> decide)))))

theorem noStoredZerosB_iff [Zero α] [DecidableEq α] (c : CS α) :
    noStoredZerosB c = true ↔ c.NoStoredZeros :=
  List.all_eq_true.trans (forall₂_congr fun _ _ => decide_eq_true_iff)

/-! ### entries of one vector -/

theorem entryAt_nil [Zero α] (j : Nat) : CS.entryAt ([] : List (Nat × α)) j = 0 := rfl

theorem mem_unionIdx (e₁ e₂ : List (Nat × α)) (j : Nat) :
    j ∈ unionIdx e₁ e₂ ↔ j ∈ e₁.map (·.1) ∨ j ∈ e₂.map (·.1) := by
  simp only [unionIdx, List.mem_append, List.mem_filter, Bool.not_eq_true', List.contains_eq_mem,
    decide_eq_false_iff_not]
  by_cases h1 : j ∈ e₁.map (·.1)
  · simp only [h1, true_or]
  · simp only [h1, false_or, not_false_eq_true, and_true]

theorem neRow_eq_zero_iff [Zero α] [DecidableEq α] (n : Nat) (e₁ e₂ : List (Nat × α))
    (h₁ : ∀ p ∈ e₁, p.1 < n) (h₂ : ∀ p ∈ e₂, p.1 < n) :
    neRow e₁ e₂ = 0 ↔ CS.denseVec n e₁ = CS.denseVec n e₂ := by
  unfold neRow CS.denseVec
  simp only [List.countP_eq_zero, List.map_inj_left, decide_eq_true_eq, Decidable.not_not,
    mem_unionIdx, List.mem_range]
  constructor
  · intro h j _
    by_cases hj : j ∈ e₁.map (·.1) ∨ j ∈ e₂.map (·.1)
    · exact h j hj
    · rw [not_or] at hj
      rw [entryAt_of_not_mem _ _ hj.1, entryAt_of_not_mem _ _ hj.2]
  · intro h j hj
    apply h j
    rcases hj with hj | hj
    · obtain ⟨p, hp, rfl⟩ := List.mem_map.mp hj
      exact h₁ p hp
    · obtain ⟨p, hp, rfl⟩ := List.mem_map.mp hj
      exact h₂ p hp

/-! ### stored entries and content of a well-formed layout -/

theorem storedCount_eq_sum (c : CS α) (h : c.WF) :
    storedCount c = ((List.range c.nMajor).map (fun i => (c.slice i).length)).sum := by
  rw [List.map_congr_left fun i hi => slice_length c h i (List.mem_range.mp hi),
    (sum_range_diff (fun i => c.indptr.getD i 0) c.nMajor h.ptrMono).1, ptr_zero c h]
  rfl

def nnzDense [Zero α] [DecidableEq α] (g : List (List α)) : Nat :=
  (g.map (fun r => r.countP (fun v => decide (v ≠ 0)))).sum

/-- a layout without stored zeros stores exactly the non-zero cells of its content -/
theorem storedCount_eq_nnzDense [Zero α] [DecidableEq α] (c : CS α) (h : c.WF) (hz : c.NoStoredZeros) :
    storedCount c = nnzDense c.toDense := by
  rw [storedCount_eq_sum c h]
  unfold nnzDense CS.toDense
  rw [List.map_map]
  exact congrArg List.sum (List.map_congr_left fun i hi =>
    (countP_denseVec c.nMinor (c.slice i) (h.distinct i (List.mem_range.mp hi)) (slice_inRange c h i)
      (slice_nonzero c hz i)).symm)

theorem neCount_eq_zero_iff [Zero α] [DecidableEq α] (c₁ c₂ : CS α) (h₁ : c₁.WF) (h₂ : c₂.WF)
    (hM : c₁.nMajor = c₂.nMajor) (hm : c₁.nMinor = c₂.nMinor) :
    neCount c₁ c₂ = 0 ↔ c₁.toDense = c₂.toDense := by
  unfold neCount CS.toDense
  rw [List.sum_eq_zero_iff_forall_eq_nat, List.forall_mem_map, ← hM, ← hm, List.map_inj_left]
  exact forall₂_congr fun i _ =>
    neRow_eq_zero_iff c₁.nMinor _ _ (slice_inRange c₁ h₁ i) (hm ▸ slice_inRange c₂ h₂ i)

/-! ### `ofEntries` and `eliminateZeros` -/

theorem ofEntries_ptr (m : Nat) (ents : List (List (Nat × α))) (i : Nat) (hi : i ≤ ents.length) :
    (ofEntries m ents).indptr.getD i 0 = offs (ents.map List.length) i := by
  have : i < (ents.map List.length).length + 1 := by rw [List.length_map]; omega
  simp only [ofEntries, prefixSums, List.getD_eq_getElem?_getD, List.getElem?_map,
    List.getElem?_range this, Option.map_some, Option.getD_some]
  rfl

theorem slice_ofEntries (m : Nat) (ents : List (List (Nat × α))) (i : Nat) (hi : i < ents.length) :
    (ofEntries m ents).slice i = ents[i] :=
  CS.slice_of_entries _ ents i hi (ofEntries_ptr m ents i (Nat.le_of_lt hi)) (ofEntries_ptr m ents (i + 1) hi)
    List.map_flatten List.map_flatten

theorem ofEntries_wf (m : Nat) (ents : List (List (Nat × α))) (hr : ∀ p ∈ ents.flatten, p.1 < m)
    (hd : ∀ l ∈ ents, (l.map (·.1)).Nodup) : (ofEntries m ents).WF := by
  have hlen : (ents.map List.length).length = ents.length := List.length_map _
  exact {
    ptrLen := by simp only [ofEntries, prefixSums, List.length_map, List.length_range]
    ptrZero := by
      simp only [ofEntries, prefixSums, List.getElem?_map, List.getElem?_range (Nat.succ_pos _),
        Option.map_some, List.take_zero, List.sum_nil]
    ptrMono := fun i hi => by
      rw [ofEntries_ptr m ents i (Nat.le_of_lt hi), ofEntries_ptr m ents (i + 1) hi,
        offs_succ _ i (hlen.symm ▸ hi)]
      exact Nat.le_add_right _ _
    ptrLast := by
      show (ofEntries m ents).indptr.getD ents.length 0 = _
      rw [ofEntries_ptr m ents _ (Nat.le_refl _), ← hlen, CS.offs_full]
      simp only [ofEntries, List.length_map, List.length_flatten]
    sameLen := by simp only [ofEntries, List.length_map]
    inRange := fun j hj => by
      obtain ⟨p, hp, rfl⟩ := List.mem_map.mp hj
      exact hr p hp
    distinct := fun i hi => by
      rw [slice_ofEntries m ents i hi]
      exact hd _ (List.getElem_mem hi) }

theorem keptEntries_length [Zero α] [DecidableEq α] (c : CS α) : (keptEntries c).length = c.nMajor := by
  simp only [keptEntries, List.length_map, List.length_range]

theorem eliminateZeros_nMajor [Zero α] [DecidableEq α] (c : CS α) :
    (eliminateZeros c).nMajor = c.nMajor := keptEntries_length c

theorem eliminateZeros_nMinor [Zero α] [DecidableEq α] (c : CS α) :
    (eliminateZeros c).nMinor = c.nMinor := rfl

theorem slice_eliminateZeros [Zero α] [DecidableEq α] (c : CS α) (i : Nat) (hi : i < c.nMajor) :
    (eliminateZeros c).slice i = (c.slice i).filter (fun e => decide (e.2 ≠ 0)) := by
  have hi' : i < (keptEntries c).length := by rw [keptEntries_length]; exact hi
  unfold eliminateZeros
  rw [slice_ofEntries _ _ i hi']
  simp only [keptEntries, List.getElem_map, List.getElem_range]

theorem mem_keptEntries_flatten [Zero α] [DecidableEq α] (c : CS α) (p : Nat × α)
    (hp : p ∈ (keptEntries c).flatten) : ∃ i, p ∈ c.slice i ∧ p.2 ≠ 0 := by
  simp only [keptEntries, List.mem_flatten, List.mem_map, List.mem_range] at hp
  obtain ⟨_, ⟨i, _, rfl⟩, hpl⟩ := hp
  rw [List.mem_filter, decide_eq_true_eq] at hpl
  exact ⟨i, hpl⟩

theorem eliminateZeros_wf [Zero α] [DecidableEq α] (c : CS α) (h : c.WF) : (eliminateZeros c).WF := by
  apply ofEntries_wf
  · intro p hp
    obtain ⟨i, hpi, _⟩ := mem_keptEntries_flatten c p hp
    exact slice_inRange c h i p hpi
  · intro l hl
    simp only [keptEntries, List.mem_map, List.mem_range] at hl
    obtain ⟨i, hi, rfl⟩ := hl
    exact (h.distinct i hi).sublist (List.Sublist.map _ List.filter_sublist)

theorem eliminateZeros_noStoredZeros [Zero α] [DecidableEq α] (c : CS α) :
    (eliminateZeros c).NoStoredZeros := by
  intro v hv
  simp only [eliminateZeros, ofEntries, List.mem_map] at hv
  obtain ⟨p, hp, rfl⟩ := hv
  obtain ⟨_, _, hnz⟩ := mem_keptEntries_flatten c p hp
  exact hnz

theorem eliminateZeros_toDense [Zero α] [DecidableEq α] (c : CS α) (h : c.WF) :
    (eliminateZeros c).toDense = c.toDense := by
  unfold CS.toDense
  rw [eliminateZeros_nMajor, eliminateZeros_nMinor]
  apply List.map_congr_left
  intro i hi
  rw [slice_eliminateZeros c i (List.mem_range.mp hi)]
  exact CS.denseVec_dropZeros _ _ (h.distinct i (List.mem_range.mp hi))

/-! ### table level -/

/-- what the (repaired) constructor guarantees of every table, and every operation keeps:
a well-formed layout of the right shape without stored zeros -/
structure Reach [Zero α] [DecidableEq α] (r : Rep α) : Prop where
  wf : r.data.WF
  nz : r.data.NoStoredZeros
  nObs : r.data.nMajor = r.obs.length
  nSamp : r.data.nMinor = r.samp.length

/-- recorded contract of scipy's format conversions (`tocsr`, `tocsc`, seen row-major): some
well-formed layout of the same shape with the same dense content and no new stored zero -/
structure LayoutConv [Zero α] [DecidableEq α] (conv : CS α → CS α) : Prop where
  wf : ∀ c, c.WF → (conv c).WF
  nz : ∀ c, c.WF → c.NoStoredZeros → (conv c).NoStoredZeros
  nMajor : ∀ c, c.WF → (conv c).nMajor = c.nMajor
  nMinor : ∀ c, c.WF → (conv c).nMinor = c.nMinor
  dense : ∀ c, c.WF → (conv c).toDense = c.toDense

theorem layoutConv_id [Zero α] [DecidableEq α] : LayoutConv (id : CS α → CS α) :=
  ⟨fun _ h => h, fun _ _ h => h, fun _ _ => rfl, fun _ _ => rfl, fun _ _ => rfl⟩

/-- `r'` is another representation of the table `r` -/
def Stable [Zero α] [DecidableEq α] (r r' : Rep α) : Prop := Reach r' ∧ r'.content = r.content

theorem Stable.refl [Zero α] [DecidableEq α] (r : Rep α) (h : Reach r) : Stable r r := ⟨h, rfl⟩

theorem Stable.trans [Zero α] [DecidableEq α] {r r' r'' : Rep α} (h₁ : Stable r r') (h₂ : Stable r' r'') :
    Stable r r'' := ⟨h₂.1, h₂.2.trans h₁.2⟩

theorem content_eq_iff [Zero α] (r₁ r₂ : Rep α) :
    r₁.content = r₂.content ↔ (r₁.ttype = r₂.ttype ∧ r₁.obs = r₂.obs ∧ r₁.samp = r₂.samp ∧
      r₁.omd = r₂.omd ∧ r₁.smd = r₂.smd ∧ r₁.data.toDense = r₂.data.toDense) := by
  unfold Rep.content
  constructor
  · intro h
    injection h with h1 h2 h3 h4 h5 h6
    exact ⟨h6, h1, h2, h4, h5, h3⟩
  · rintro ⟨h1, h2, h3, h4, h5, h6⟩
    rw [h1, h2, h3, h4, h5, h6]

theorem stable_relayout [Zero α] [DecidableEq α] (r : Rep α) (h : Reach r) (d : CS α) (f : Fmt)
    (hwf : d.WF) (hnz : d.NoStoredZeros) (hM : d.nMajor = r.data.nMajor) (hm : d.nMinor = r.data.nMinor)
    (hd : d.toDense = r.data.toDense) : Stable r { r with data := d, fmt := f } := by
  refine ⟨⟨hwf, hnz, hM.trans h.nObs, hm.trans h.nSamp⟩, ?_⟩
  rw [content_eq_iff]
  exact ⟨rfl, rfl, rfl, rfl, rfl, hd⟩

theorem stable_fmt [Zero α] [DecidableEq α] (r : Rep α) (h : Reach r) (f : Fmt) :
    Stable r { r with fmt := f } :=
  stable_relayout r h r.data f h.wf h.nz rfl rfl rfl

theorem acc_apply_stable [Zero α] [DecidableEq α] (conv : CS α → CS α) (hc : LayoutConv conv)
    (acc : Acc) (r : Rep α) (h : Reach r) : Stable r (acc.apply conv r) := by
  have hconv : ∀ f, Stable r { r with data := conv r.data, fmt := f } := fun f =>
    stable_relayout r h _ f (hc.wf _ h.wf) (hc.nz _ h.wf h.nz) (hc.nMajor _ h.wf) (hc.nMinor _ h.wf)
      (hc.dense _ h.wf)
  -- the three converting accessors re-lay the matrix or leave the table alone, depending on `fmt`
  have hite : ∀ (p : Prop) [Decidable p] (x y : Rep α), Stable r x → Stable r y →
      Stable r (if p then x else y) := fun p _ x y hx hy => by split <;> assumption
  cases acc with
  | nnz =>
    exact stable_relayout r h _ r.fmt (eliminateZeros_wf _ h.wf) (eliminateZeros_noStoredZeros _)
      (eliminateZeros_nMajor _) (eliminateZeros_nMinor _) (eliminateZeros_toDense _ h.wf)
  | vecObs => exact hite _ _ _ (Stable.refl r h) (hconv .csr)
  | vecSamp => exact hite _ _ _ (Stable.refl r h) (hconv .csc)
  | getValue => exact hite _ _ _ (hconv .csr) (Stable.refl r h)
  | plain => exact Stable.refl r h

theorem eqEffect_stable [Zero α] [DecidableEq α] (conv : CS α → CS α) (hc : LayoutConv conv)
    (r s : Rep α) (h : Reach r) : Stable r (eqEffect conv r s) := by
  unfold eqEffect
  split
  · exact acc_apply_stable conv hc .vecObs r h
  · exact Stable.refl r h

end Biom.C16
